/-
  Basic definitions shared by all models: byte strings, Go panics as values.

  Bytes are modelled as `List Nat`; every model function is total on all of `List Nat`, which is a
  superset of real byte strings (elements < 256).  Where a function's behaviour depends on the
  8-bit width (e.g. `c - '0'` on a Go `byte`), the wrap-around is written out with `% 256` and the
  theorem states the range hypothesis `IsBytes`.
-/

abbrev Byte := Nat
abbrev Bytes := List Nat

/-- Every element is a real byte. -/
def IsBytes (s : Bytes) : Prop := ∀ b ∈ s, b < 256

instance (s : Bytes) : Decidable (IsBytes s) := by unfold IsBytes; infer_instance

/-- Kinds of Go run-time panics the models track. -/
inductive Panic where
  | index      -- index out of range
  | slice      -- slice bounds out of range
  | nilDeref   -- nil pointer dereference / nil map write
  | explicit   -- panic(...) / logger.Panic / Must...
  deriving DecidableEq, Repr

def Panic.name : Panic → String
  | .index => "index"
  | .slice => "slice"
  | .nilDeref => "nil"
  | .explicit => "explicit"

/-- The monad of Go code that may panic. -/
abbrev GoM := Except Panic

deriving instance DecidableEq for Except

/-- String to bytes (run time only; in proofs use the `b!"…"` literal, which elaborates to a list
of numerals the kernel can compute with). -/
def str (s : String) : Bytes := s.toUTF8.toList.map (·.toNat)

open Lean in
/-- `b!"abc"` elaborates to `[97, 98, 99]` (UTF-8 bytes of the literal). -/
macro "b!" s:str : term => do
  let bytes := s.getString.toUTF8.toList.map (fun b => Syntax.mkNumLit (toString b.toNat))
  `(([$(bytes.toArray),*] : List Nat))

/-- Go's `s[i]` on a byte string. -/
def idx (s : Bytes) (i : Nat) : GoM Nat :=
  match s[i]? with
  | some b => .ok b
  | none => .error .index

/-- Go's `s[i:j]`. -/
def slice (s : Bytes) (i j : Nat) : GoM Bytes :=
  if i ≤ j ∧ j ≤ s.length then .ok ((s.drop i).take (j - i)) else .error .slice

def isDigit (b : Nat) : Bool := 48 ≤ b && b ≤ 57

/-- index of the first occurrence of `b` (Go `bytes.IndexByte`), `none` for -1 -/
def indexByte (s : Bytes) (b : Nat) : Option Nat :=
  let rec go : Bytes → Nat → Option Nat
    | [], _ => none
    | x :: xs, i => if x = b then some i else go xs (i + 1)
  go s 0
