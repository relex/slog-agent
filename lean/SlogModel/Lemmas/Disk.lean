import SlogModel.Model.Disk
import SlogModel.Lemmas.Assoc

/-!
  Lemmas about the step-level disk model (for `Props/C04.lean`).  A directory is an association list: `fget` / `del` / `put`
  are `Assoc.get` / `del` / `put`.
-/

open Disk

namespace Disk

theorem fget_put (fs : FS) (n m : Name) (x : Node) : fget (put fs n x) m = if m = n then some x else fget fs m :=
  Assoc.get_put fs n m x

theorem fget_del (fs : FS) (n m : Name) : fget (del fs n) m = if m = n then none else fget fs m := Assoc.get_del fs n m

theorem mem_scan {fs : FS} {i : Nat} {d : Bytes} (h : (i, some d) ∈ scan fs) : (Name.final i, Node.file d) ∈ fs := by
  obtain ⟨⟨n, x⟩, hp, he⟩ := List.mem_filterMap.mp h
  cases n <;> cases x <;> simp at he
  obtain ⟨rfl, rfl⟩ := he
  exact hp

end Disk

namespace C04

/-- a directory changed at most at the two names of chunk `id`, and the final name is unchanged or complete -/
def Safe (fs fs' : FS) (id : Nat) (data : Bytes) : Prop :=
  (fget fs' (.final id) = fget fs (.final id) ∨ fget fs' (.final id) = some (.file data)) ∧
  ∀ n, n ≠ .final id → n ≠ .temp id → fget fs' n = fget fs n

theorem safe_refl (fs : FS) (id : Nat) (data : Bytes) : Safe fs fs id data := ⟨Or.inl rfl, fun _ _ _ => rfl⟩

/- `writeFile` and `crashFile` are `put` / `del` terms: what they leave behind is `fget` evaluated on them by `fget_put` / `fget_del` -/

theorem writeFile_spec (fs : FS) (id : Nat) (data : Bytes) (limit : Option Nat) :
    ((writeFile fs id data limit).2 = true → fget (writeFile fs id data limit).1 (.final id) = some (.file data)) ∧
    ((writeFile fs id data limit).2 = false → fget (writeFile fs id data limit).1 (.final id) = fget fs (.final id)) ∧
    fget (writeFile fs id data limit).1 (.temp id) = none ∧
    ∀ n, n ≠ .final id → n ≠ .temp id → fget (writeFile fs id data limit).1 n = fget fs n := by
  unfold writeFile
  split <;> simp +contextual [fget_put, fget_del]

theorem writeFile_safe (fs : FS) (id : Nat) (data : Bytes) (limit : Option Nat) :
    Safe fs (writeFile fs id data limit).1 id data := by
  obtain ⟨h1, h2, _, h4⟩ := writeFile_spec fs id data limit
  cases hb : (writeFile fs id data limit).2
  · exact ⟨.inl (h2 hb), h4⟩
  · exact ⟨.inr (h1 hb), h4⟩

theorem crashFile_safe (fs : FS) (id : Nat) (data : Bytes) (k : Kill) : Safe fs (crashFile fs id data k) id data := by
  cases k <;> simp +contextual [Safe, crashFile, fget_put, fget_del]

def Names (fs : FS) : List Name := fs.map (·.1)

theorem writeFile_nodup (fs : FS) (id : Nat) (d : Bytes) (lim : Option Nat) (h : (Names fs).Nodup) :
    (Names (writeFile fs id d lim).1).Nodup := by
  unfold writeFile
  split
  · exact Assoc.nodup_put _ _ (Assoc.nodup_del _ (Assoc.nodup_put _ _ h))
  · exact Assoc.nodup_del _ (Assoc.nodup_put _ _ h)

theorem crashFile_nodup (fs : FS) (id : Nat) (d : Bytes) (k : Kill) (h : (Names fs).Nodup) :
    (Names (crashFile fs id d k)).Nodup := by
  cases k
  case rename => exact Assoc.nodup_put _ _ (Assoc.nodup_del _ h)
  all_goals exact Assoc.nodup_put _ _ h

/-- names are distinct (so that `scan` and `fget` agree), and every final-name file is one that was there before or a complete
chunk of the list -/
def FinalsOK (fs0 fs : FS) (chunks : List (Nat × Bytes)) : Prop :=
  (Names fs).Nodup ∧
  ∀ i x, fget fs (.final i) = some x → fget fs0 (.final i) = some x ∨ ∃ d, (i, d) ∈ chunks ∧ x = .file d

theorem finalsOK_mono {fs0 fs : FS} {a : List (Nat × Bytes)} (b : List (Nat × Bytes)) (h : FinalsOK fs0 fs a) :
    FinalsOK fs0 fs (a ++ b) :=
  ⟨h.1, fun i x hx => (h.2 i x hx).imp_right fun ⟨d, h2, h3⟩ => ⟨d, List.mem_append_left _ h2, h3⟩⟩

theorem finalsOK_step {fs0 fs fs' : FS} {id : Nat} {data : Bytes} {done : List (Nat × Bytes)}
    (h : FinalsOK fs0 fs done) (hs : Safe fs fs' id data) (hn : (Names fs').Nodup) : FinalsOK fs0 fs' (done ++ [(id, data)]) := by
  refine ⟨hn, fun i x hx => ?_⟩
  have old : fget fs (.final i) = some x → _ := fun hx => (finalsOK_mono [(id, data)] h).2 i x hx
  by_cases hi : i = id
  · subst hi
    rcases hs.1 with h1 | h1
    · exact old (h1 ▸ hx)
    · cases h1.symm.trans hx
      exact .inr ⟨data, List.mem_append_right _ (List.mem_singleton.mpr rfl), rfl⟩
  · exact old (hs.2 (.final i) (by simp [hi]) (by simp) ▸ hx)

theorem victim_finals : ∀ (chunks done : List (Nat × Bytes)) (fs0 fs : FS) (pos : Nat) (f : Fault),
    FinalsOK fs0 fs done → FinalsOK fs0 (victim fs chunks pos f) (done ++ chunks)
  | [], done, fs0, fs, pos, f, h => by simpa [victim] using h
  | (id, d) :: rest, done, fs0, fs, pos, f, h => by
    have hw := fun lim => finalsOK_step h (writeFile_safe fs id d lim) (writeFile_nodup fs id d lim h.1)
    have hk := fun k => finalsOK_step h (crashFile_safe fs id d k) (crashFile_nodup fs id d k h.1)
    rw [show done ++ (id, d) :: rest = (done ++ [(id, d)]) ++ rest by simp]
    cases pos with
    | zero =>
      cases f with
      | none | limit l => exact victim_finals rest _ fs0 _ 0 .none (hw _)
      | kill k => exact finalsOK_mono _ (hk k)
      | limitKill l => exact finalsOK_mono _ (hk (.write l))
    | succ p => exact victim_finals rest _ fs0 _ p f (hw _)

theorem victim_nodup : ∀ (chunks : List (Nat × Bytes)) (fs : FS) (pos : Nat) (f : Fault),
    (Names fs).Nodup → (Names (victim fs chunks pos f)).Nodup :=
  fun chunks fs pos f h => (victim_finals chunks [] fs fs pos f ⟨h, fun _ _ hx => .inl hx⟩).1

end C04
