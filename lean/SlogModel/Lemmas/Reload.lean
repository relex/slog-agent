import SlogModel.Model.Reload
import SlogModel.Lemmas.Assoc
import SlogModel.Lemmas.Run
import SlogModel.Lemmas.List

/-!
  The reload transition system `Reload.step` as a relation, and its invariant `C17.RInv` (for `Props/C17.lean`).
  `aget` / `adel` / `aput` are `Assoc.get` / `del` / `put`.
-/

namespace Reload
variable {β : Type}

theorem aget_adel (l : List (Nat × β)) (k m : Nat) : aget (adel l k) m = if m = k then none else aget l m := Assoc.get_del l k m

theorem aget_aput (l : List (Nat × β)) (k m : Nat) (v : β) : aget (aput l k v) m = if m = k then some v else aget l m :=
  Assoc.get_put l k m v

theorem aget_isSome_iff {l : List (Nat × β)} {n : Nat} : (aget l n).isSome ↔ n ∈ l.map (·.1) := Assoc.get_isSome

theorem mem_renew (g : Nat) : ∀ (l : List (Nat × Sink)) (sid : Nat) (p : Nat × Sink), p ∈ renew g sid l → p.2.gen = g
  | [], _, p, h => nomatch h
  | (m, k0) :: r, sid, p, h => by
    rcases List.mem_cons.mp h with rfl | h
    · rfl
    · exact mem_renew g r (sid + 1) p h

theorem keys_renew (g : Nat) : ∀ (sid : Nat) (l : List (Nat × Sink)), (renew g sid l).map (·.1) = l.map (·.1)
  | _, [] => rfl
  | sid, (n, _) :: r => by rw [renew, List.map_cons, List.map_cons, keys_renew g (sid + 1) r]

theorem insertSlot_perm (p : Nat × Sink) (l : List (Nat × Sink)) : (insertSlot p l).Perm (p :: l) := by
  fun_induction insertSlot p l with
  | case1 => exact .refl _
  | case2 => exact .refl _
  | case3 q r _ ih => exact (ih.cons q).trans (.swap p q r)

theorem sortSlots_perm : ∀ l : List (Nat × Sink), (sortSlots l).Perm l
  | [] => .refl _
  | p :: r => (insertSlot_perm p _).trans ((sortSlots_perm r).cons p)

theorem reloadStep_occupied (s : St) (n : Nat) : (aget (reloadStep s).slots n).isSome = (aget s.slots n).isSome := by
  refine Bool.eq_iff_iff.mpr ?_
  rw [aget_isSome_iff, aget_isSome_iff]
  show n ∈ (renew _ _ (sortSlots s.slots)).map (·.1) ↔ _
  rw [keys_renew]
  exact ((sortSlots_perm s.slots).map _).mem_iff

theorem useSink_ok (s : St) (k : Sink) (w : String) (h : k.gen ∉ s.shut) : useSink s k w = s := by
  unfold useSink
  rw [if_neg h]

theorem occupiedBad_free {s : St} {n : Nat} (h : aget s.slots n = none) : occupiedBad s n = s := by
  unfold occupiedBad
  rw [h]
  rfl

/-- `NewSink` under the read lock: the downstream sink is created and stored in the slot in one action -/
def registered (s : St) (n : Nat) : St :=
  { s with nextSid := s.nextSid + 1, hist := s.hist ++ [.newSink s.nextSid s.gen n],
           slots := aput s.slots n { sid := s.nextSid, gen := s.gen }, phases := aput s.phases n .registered }

/-- the rules of `step`; the extra actions of `stepLegacy` have none -/
inductive Step (s : St) : Act → St → Prop
  | connect {n} (hn : n ∉ s.fds) : Step s (.connect n) { s with fds := s.fds ++ [n], phases := aput s.phases n .accepted }
  | register {n} (hp : aget s.phases n = some .accepted) : Step s (.register n) (registered (occupiedBad s n) n)
  | accept {n r k} (hp : aget s.phases n = some .registered) (hk : aget s.slots n = some k) :
      Step s (.accept n r) { useSink s k "Accept" with hist := (useSink s k "Accept").hist ++ [.accept k.sid r] }
  | tick {n k} (hp : aget s.phases n = some .registered) (hk : aget s.slots n = some k) :
      Step s (.tick n) { useSink s k "Tick" with hist := (useSink s k "Tick").hist ++ [.tick k.sid] }
  | closeSink {n k} (hp : aget s.phases n = some .registered) (hk : aget s.slots n = some k) :
      Step s (.closeSink n)
        { useSink s k "Close" with
          hist := (useSink s k "Close").hist ++ [.close k.sid], slots := adel (useSink s k "Close").slots n,
          phases := aput (useSink s k "Close").phases n .sinkClosed }
  | closeSocket {n} (hp : aget s.phases n = some .sinkClosed) :
      Step s (.closeSocket n) { s with fds := s.fds.filter (· ≠ n), phases := adel s.phases n }
  | reload : Step s .reload (reloadStep s)
  | reloadFail : Step s .reloadFail { s with hist := s.hist ++ [.reloadFailed] }

theorem callVia_some {s s' : St} {n : Nat} {w : String} {ev : Nat → Ev} (h : callVia s n w ev = some s') :
    ∃ k, aget s.slots n = some k ∧ s' = { useSink s k w with hist := (useSink s k w).hist ++ [ev k.sid] } := by
  unfold callVia at h
  split at h
  · cases h
  · cases h
    exact ⟨_, ‹_›, rfl⟩

theorem closeVia_some {s s' : St} {n : Nat} (h : closeVia s n = some s') :
    ∃ k, aget s.slots n = some k ∧
      s' = { useSink s k "Close" with hist := (useSink s k "Close").hist ++ [.close k.sid],
                                      slots := adel (useSink s k "Close").slots n } := by
  unfold closeVia at h
  split at h
  · cases h
  · cases h
    exact ⟨_, ‹_›, rfl⟩

theorem Step.of_step {s : St} {a : Act} {s' : St} (h : step s a = some s') : Step s a s' := by
  -- one goal per enabled branch of `step`, in its order, with the guards in context
  revert h
  fun_cases step s a <;> intro h <;> try cases h
  next hn => exact .connect hn
  next hp _ _ hk => cases hk; exact .register hp
  next hp => obtain ⟨k, hk, rfl⟩ := callVia_some h; exact .accept hp hk
  next hp => obtain ⟨k, hk, rfl⟩ := callVia_some h; exact .tick hp hk
  next hp =>
    obtain ⟨s1, h1, rfl⟩ := Option.map_eq_some_iff.mp h
    obtain ⟨k, hk, rfl⟩ := closeVia_some h1
    exact .closeSink hp hk
  next hp => exact .closeSocket hp
  · exact .reload
  · exact .reloadFail

theorem run_eq_runOpt : run = runOpt step :=
  runOpt_unique (fun _ => rfl) (fun s a as => by rw [run]; cases step s a <;> rfl)

end Reload

open Reload
namespace C17

structure RInv (s : St) : Prop where
  gens : ∀ p ∈ s.slots, p.2.gen = s.gen                         -- every stored sink belongs to the current downstream
  cur : ∀ g ∈ s.shut, g < s.gen                                   -- which was never shut down
  -- per connection number, so that an action is checked at the number it names and elsewhere:
  -- slot occupied ⇔ its connection is registered; a live connection's socket is open
  key : ∀ n, (aget s.phases n = some .registered ↔ (aget s.slots n).isSome) ∧ ∀ p, aget s.phases n = some p → n ∈ s.fds
  ok : s.bad = []                                                 -- no violation observed so far

theorem RInv.reg {s : St} (hi : RInv s) (n : Nat) : aget s.phases n = some .registered ↔ (aget s.slots n).isSome := (hi.key n).1

theorem RInv.fd {s : St} (hi : RInv s) (n : Nat) (p : Phase) (h : aget s.phases n = some p) : n ∈ s.fds := (hi.key n).2 p h

theorem RInv.not_shut {s : St} (hi : RInv s) {p : Nat × Sink} (hp : p ∈ s.slots) : p.2.gen ∉ s.shut :=
  fun hm => Nat.lt_irrefl _ (hi.gens p hp ▸ hi.cur _ hm)

theorem RInv.useSink {s : St} (hi : RInv s) {n : Nat} {k : Sink} (hk : aget s.slots n = some k) (w : String) : useSink s k w = s :=
  useSink_ok s k w (hi.not_shut (Assoc.mem_of_get hk))

theorem RInv.free {s : St} (hi : RInv s) {n : Nat} (hp : aget s.phases n = some .accepted) : aget s.slots n = none :=
  Option.eq_none_iff_forall_ne_some.mpr fun k hs => nomatch hp.symm.trans ((hi.reg n).mpr (by rw [hs]; rfl))

theorem step_rinv {s : St} {a : Act} {s' : St} (h : Step s a s') (hi : RInv s) : RInv s' := by
  cases h with
  | accept hp hk | tick hp hk =>
    rw [hi.useSink hk]
    exact { hi with }
  | reloadFail => exact { hi with }
  | @connect n hn =>
    -- the number is free: no phase, hence (by `reg`) no slot
    have hnone : aget s.phases n = none := Option.eq_none_iff_forall_ne_some.mpr fun p hp => hn (hi.fd n p hp)
    refine { hi with key := fun m => ?_ }
    dsimp only
    rw [aget_aput]
    split
    · subst m
      exact ⟨by simp [← hi.reg, hnone], fun _ _ => by simp⟩
    · exact ⟨hi.reg m, fun p h => List.mem_append_left _ (hi.fd m p h)⟩
  | @register n hp =>
    rw [occupiedBad_free (hi.free hp)]
    refine { hi with gens := fun p hp' => (Assoc.mem_put hp').elim (hi.gens p) fun e => e ▸ rfl, key := fun m => ?_ }
    dsimp only [registered]
    rw [aget_aput, aget_aput]
    split
    · subst m
      exact ⟨by simp, fun _ _ => hi.fd _ _ hp⟩
    · exact ⟨hi.reg m, hi.fd m⟩
  | @closeSink n k hp hk =>
    rw [hi.useSink hk]
    refine { hi with gens := fun p hp' => hi.gens p (Assoc.mem_del hp'), key := fun m => ?_ }
    dsimp only
    rw [aget_aput, aget_adel]
    split
    · subst m
      exact ⟨by simp, fun _ _ => hi.fd _ _ hp⟩
    · exact ⟨hi.reg m, hi.fd m⟩
  | @closeSocket n hp =>
    refine { hi with key := fun m => ?_ }
    dsimp only
    rw [aget_adel]
    split
    · subst m
      exact ⟨by simp [← hi.reg, hp], nofun⟩
    · exact ⟨hi.reg m, fun p h => List.mem_filter.mpr ⟨hi.fd m p h, by simpa⟩⟩
  | reload =>
    have hstale : (s.slots.filter (fun p => decide (p.2.gen ∈ s.shut))) = [] :=
      List.filter_eq_nil_iff.mpr fun p hp => by rw [decide_eq_true_eq]; exact hi.not_shut hp
    refine ⟨fun p hp => mem_renew _ _ _ p hp,
      forall_mem_snoc (fun g h1 => Nat.lt_succ_of_lt (hi.cur g h1)) (Nat.lt_succ_self _),
      fun m => ⟨by rw [reloadStep_occupied]; exact hi.reg m, hi.fd m⟩, ?_⟩
    simp only [reloadStep]
    rw [hi.ok, hstale]
    rfl

theorem init_rinv : RInv ({} : St) where
  gens := nofun
  cur := nofun
  key := fun n => ⟨by simp [aget], by simp [aget]⟩
  ok := rfl

theorem reach {acts : List Act} {s : St} (h : run {} acts = some s) : RInv s :=
  runOpt_inv (fun hs hi => step_rinv (.of_step hs) hi) (run_eq_runOpt ▸ h) init_rinv

end C17
