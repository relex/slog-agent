import SlogModel.Model.Xform

/-!
  Lemmas of the transform model: field slots of a record, and the interpreter's control structure as rewriting lemmas.
-/

namespace Xform

theorem Rec.length_set (r : Rec) (i : Nat) (v : Bytes) : (r.set i v).fields.length = r.fields.length := by
  simp [Rec.set]

theorem Rec.get_set {r : Rec} {i : Nat} (v : Bytes) (h : i < r.fields.length) : (r.set i v).get i = v := by
  simp [Rec.get, Rec.set, h]

theorem Rec.get_set_nil (r : Rec) (i : Nat) : (r.set i []).get i = [] := by
  simp only [Rec.get, Rec.set, List.getD_eq_getElem?_getD, List.getElem?_set_self']
  cases r.fields[i]? <;> rfl

theorem Rec.get_set_ne (r : Rec) {i j : Nat} (v : Bytes) (h : j ≠ i) : (r.set i v).get j = r.get j := by
  simp [Rec.get, Rec.set, List.getD_eq_getElem?_getD, List.getElem?_set_ne (Ne.symm h)]

theorem Rec.get_delFields (keys : List Nat) (r : Rec) (j : Nat) :
    (keys.foldl (fun r k => r.set k []) r).get j = if j ∈ keys then [] else r.get j := by
  induction keys generalizing r with
  | nil => rfl
  | cons k ks ih =>
    rw [List.foldl_cons, ih]
    by_cases hk : j = k
    · subst hk; simp [Rec.get_set_nil]
    · simp [hk, Rec.get_set_ne r [] hk]

theorem Rec.length_delFields (keys : List Nat) (r : Rec) :
    (keys.foldl (fun r k => r.set k []) r).fields.length = r.fields.length := by
  induction keys generalizing r with
  | nil => rfl
  | cons k ks ih => rw [List.foldl_cons, ih, Rec.length_set]

theorem runStep_iff (st : XState) (r : Rec) (m : Xform.Match) (thn : List Step) :
    runStep st r (.iff m thn) = if matchRec m r then runSteps st r thn else .ok (.pass, r, st) := by rw [runStep]

theorem runStep_switch (st : XState) (r : Rec) (cases : List (Xform.Match × List Step)) :
    runStep st r (.switch cases) = runCases st r cases := by rw [runStep]

theorem runStep_block (st : XState) (r : Rec) (steps : List Step) :
    runStep st r (.block steps) = runSteps st r steps := by rw [runStep]

theorem runSteps_cons (st : XState) (r : Rec) (s : Step) (rest : List Step) :
    runSteps st r (s :: rest) =
      match runStep st r s with
      | .ok (.pass, r1, st1) => runSteps st1 r1 rest
      | other => other := by
  rw [runSteps]
  cases runStep st r s with
  | error e => rfl
  | ok v => obtain ⟨res, r1, st1⟩ := v; cases res <;> rfl

theorem runSteps_append (st : XState) (r : Rec) (a b : List Step) :
    runSteps st r (a ++ b) =
      (match runSteps st r a with
       | .ok (.pass, r1, st1) => runSteps st1 r1 b
       | other => other) := by
  induction a generalizing st r with
  | nil => rfl
  | cons s rest ih =>
    rw [List.cons_append, runSteps_cons, runSteps_cons]
    cases runStep st r s with
    | error e => rfl
    | ok v =>
      obtain ⟨res, r1, st1⟩ := v
      cases res with
      | drop => rfl
      | pass => exact ih st1 r1

theorem runCases_cons (st : XState) (r : Rec) (m : Xform.Match) (thn : List Step)
    (rest : List (Xform.Match × List Step)) :
    runCases st r ((m, thn) :: rest) = if matchRec m r then runSteps st r thn else runCases st r rest := by
  rw [runCases]

theorem runCases_skip (st : XState) (r : Rec) (pre post : List (Xform.Match × List Step))
    (hpre : ∀ c ∈ pre, matchRec c.1 r = false) : runCases st r (pre ++ post) = runCases st r post := by
  induction pre with
  | nil => rfl
  | cons c cs ih =>
    rw [List.cons_append, runCases_cons, hpre c (by simp), ih (fun c hc => hpre c (by simp [hc]))]; rfl

end Xform
