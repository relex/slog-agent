/-!
  The shape shared by `Client.run`, `Buffer.run`, `E2E.run`, `Reload.run`, `Dist.run`, `Pool.run`, `runI`, `runS`:
  a partial step function folded over a list of actions.  Each system states once that its `run` is `runOpt step`
  (by `runOpt_unique`) and takes composition of runs, preservation of invariants and bounds on the length of runs from here.
-/

def runOpt {σ α : Type} (step : σ → α → Option σ) : σ → List α → Option σ
  | s, [] => some s
  | s, a :: as => (step s a).bind fun s' => runOpt step s' as

section
variable {σ α : Type} {step : σ → α → Option σ}

theorem runOpt_unique {run : σ → List α → Option σ} (hnil : ∀ s, run s [] = some s)
    (hcons : ∀ s a as, run s (a :: as) = (step s a).bind fun s' => run s' as) :
    run = runOpt step := by
  funext s as
  induction as generalizing s with
  | nil => exact hnil s
  | cons a as ih => rw [hcons, runOpt]; cases step s a <;> simp [ih]

theorem runOpt_append (s : σ) (a b : List α) :
    runOpt step s (a ++ b) = (runOpt step s a).bind (fun s' => runOpt step s' b) := by
  induction a generalizing s with
  | nil => rfl
  | cons x xs ih => simp only [List.cons_append, runOpt]; cases step s x <;> simp [ih]

theorem runOpt_trans {s s1 s2 : σ} {a b : List α} (h1 : runOpt step s a = some s1) (h2 : runOpt step s1 b = some s2) :
    runOpt step s (a ++ b) = some s2 := by
  rw [runOpt_append, h1]; exact h2

theorem runOpt_cons {s s1 s2 : σ} {a : α} {as : List α} (h1 : step s a = some s1) (h2 : runOpt step s1 as = some s2) :
    runOpt step s (a :: as) = some s2 := by
  rw [runOpt, h1]; exact h2

theorem runOpt_induction {C : σ → List α → σ → Prop} (nil : ∀ s, C s [] s)
    (cons : ∀ s a s1 as s', step s a = some s1 → runOpt step s1 as = some s' → C s1 as s' → C s (a :: as) s')
    {s : σ} {as : List α} {s' : σ} (h : runOpt step s as = some s') : C s as s' := by
  induction as generalizing s with
  | nil => cases h; exact nil _
  | cons a as ih =>
    simp only [runOpt] at h
    cases hs : step s a with
    | none => simp [hs] at h
    | some s1 => rw [hs] at h; exact cons s a s1 as s' hs h (ih h)

theorem runOpt_inv_on {P : σ → Prop} {ok : α → Prop} (hstep : ∀ {s a s'}, ok a → step s a = some s' → P s → P s')
    {s : σ} {as : List α} {s' : σ} (hall : ∀ a ∈ as, ok a) (h : runOpt step s as = some s') (hp : P s) : P s' :=
  runOpt_induction (C := fun s as s' => (∀ a ∈ as, ok a) → P s → P s') (fun _ _ hp => hp)
    (fun _ a _ _ _ hs _ ih hall hp =>
      ih (fun b hb => hall b (List.mem_cons_of_mem _ hb)) (hstep (hall a List.mem_cons_self) hs hp)) h hall hp

theorem runOpt_inv {P : σ → Prop} (hstep : ∀ {s a s'}, step s a = some s' → P s → P s')
    {s : σ} {as : List α} {s' : σ} (h : runOpt step s as = some s') (hp : P s) : P s' :=
  runOpt_inv_on (ok := fun _ => True) (fun _ => hstep) (fun _ _ => trivial) h hp

theorem runOpt_mono {step' : σ → α → Option σ} (hsub : ∀ {s a s'}, step s a = some s' → step' s a = some s')
    {s : σ} {as : List α} {s' : σ} (h : runOpt step s as = some s') : runOpt step' s as = some s' :=
  runOpt_induction (C := fun s as s' => runOpt step' s as = some s') (fun _ => rfl)
    (fun _ _ _ _ _ hs _ ih => runOpt_cons (hsub hs) ih) h

theorem runOpt_measure {P : σ → Prop} {μ : σ → Nat} {ok : α → Prop}
    (hstep : ∀ {s a s'}, ok a → step s a = some s' → P s → P s' ∧ μ s' < μ s)
    {s : σ} {as : List α} {s' : σ} (hall : ∀ a ∈ as, ok a) (h : runOpt step s as = some s') (hp : P s) :
    P s' ∧ as.length + μ s' ≤ μ s :=
  runOpt_induction (C := fun s as s' => (∀ a ∈ as, ok a) → P s → P s' ∧ as.length + μ s' ≤ μ s)
    (fun _ _ hp => ⟨hp, by simp⟩)
    (fun s a s1 as s' hs _ ih hall hp => by
      obtain ⟨p1, m1⟩ := hstep (hall a List.mem_cons_self) hs hp
      obtain ⟨p2, m2⟩ := ih (fun b hb => hall b (List.mem_cons_of_mem _ hb)) p1
      exact ⟨p2, by simp only [List.length_cons]; omega⟩) h hall hp
end
