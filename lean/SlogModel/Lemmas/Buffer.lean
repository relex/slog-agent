import SlogModel.Lemmas.BufferShape
import SlogModel.Lemmas.List

/-!
  Where the chunks are (helper lemmas for `Props/C03.lean`): conservation, FIFO, the capacities of window and input
  channel, nothing queued after `destroy` — each a case analysis over `Shape`, for every schedule of the feeder.
-/

open Buffer
namespace C03

def handIds : Option (Entry × Bytes) → List Nat
  | some (q, _) => [q.id]
  | none => []

/-- the places an accepted id can be in; the live ones in the order the chunks travel (consumer first), so that `take`, `push`
and `load` leave the list as it is -/
def places (s : St) : List Nat :=
  s.confirmedG ++ s.keptG ++ s.droppedG ++ (s.held.map (·.id) ++ s.outW.map (·.id) ++ handIds s.hand ++ s.inQ.map (·.id))

def Conserved (s : St) : Prop := ∀ i, (accIds s).count i = (places s).count i

theorem handIds_eq (h : Option (Entry × Bytes)) : handIds h = (handEntry h).map (·.id) := by
  cases h <;> rfl

theorem count_find_filter {l : List Entry} {id : Nat} {e : Entry} (h : l.find? (fun e => e.id = id) = some e)
    (hn : (l.map (·.id)).Nodup) (i : Nat) :
    ((l.filter (fun e => e.id ≠ id)).map (·.id)).count i + (if i = id then 1 else 0) = (l.map (·.id)).count i := by
  have hm : (l.filter (fun e => e.id ≠ id)).map (·.id) = (l.map (·.id)).filter (· ≠ id) := by
    rw [List.filter_map]; rfl
  rw [hm, count_filter_ne]
  by_cases hi : i = id
  · subst hi
    have := List.nodup_iff_count.mp hn i
    have : 0 < (l.map (·.id)).count i :=
      List.count_pos_iff.mpr (List.mem_map.mpr ⟨e, List.mem_of_find?_eq_some h, by simpa using List.find?_some h⟩)
    simp only [if_true]; omega
  · simp [hi]

structure CInv (s : St) : Prop where
  cons : Conserved s
  nodup : (accIds s).Nodup

theorem CInv.held_nodup {s : St} (hi : CInv s) : (s.held.map (·.id)).Nodup := by
  refine nodup_of_count_le hi.nodup fun c => ?_
  have := hi.cons c
  simp only [places, List.count_append] at this
  omega

theorem shape_cinv {s s' : St} {a : IAct} (h : Shape s a s') (hok : okI s a) (hi : CInv s) : CInv s' := by
  constructor
  · intro i
    have hc := hi.cons i
    -- every case: put the invariant in, and the two sides agree up to the order of the summands
    cases h with
    | push hh | load hh hq | take _ ho =>
      simpa only [places, accIds, handIds, *, List.map_append, List.map_cons, List.map_nil, List.append_assoc,
        List.nil_append, List.cons_append, List.append_nil] using hc
    | enq _ hid =>
      simp only [places, accIds, hid, List.map_append, List.count_append, List.map_cons, List.map_nil] at hc ⊢
      rw [hc]; ac_rfl
    | adrop =>
      simp only [places, accIds, List.map_append, List.count_append, List.map_cons, List.map_nil] at hc ⊢
      rw [hc]; ac_rfl
    | qdrop hh hq =>
      simp only [places, accIds, hh, hq, handIds, List.map_cons, count_cons_ite, List.count_nil, List.count_append] at hc ⊢
      rw [hc]; ac_rfl
    | confirmed he | keptBack he | dropBack he =>
      -- the held entry goes to one ghost list; held ids are distinct, so filtering by its id removes just it
      have hr := count_find_filter he hi.held_nodup i
      simp only [places, accIds, List.count_append, count_cons_ite, List.count_nil] at hc ⊢
      rw [hc, ← hr]; ac_rfl
    | destroy _ hcnt =>
      have hx := hcnt i
      simp only [List.map_append, List.count_append, ← handIds_eq] at hx
      simp only [places, accIds, List.count_append] at hc
      simp only [places, accIds, handIds, List.map_nil, List.count_nil, List.count_append]
      omega
    | finish | extZero | extRemove => exact hc
  · cases h with
    | @enq id | @adrop id =>
      have : id ∉ accIds s := hok.1
      simp only [accIds, List.map_append, List.map_cons, List.map_nil, List.nodup_append]
      exact ⟨hi.nodup, by simp, fun a ha b hb hab => this (List.mem_singleton.mp hb ▸ hab ▸ ha)⟩
    | _ => exact hi.nodup

theorem scanned_nodup (cfg : Cfg) (disk : List (Nat × Bytes)) (hd : (disk.map (·.1)).Nodup) :
    ((scanned cfg disk).map (·.1)).Nodup := by
  unfold scanned
  split
  · exact ((List.mergeSort_perm disk _).map (·.1)).nodup_iff.mpr hd
  · simp

theorem recoverRaw_cinv (cfg : Cfg) (disk : List (Nat × Bytes)) (hd : (disk.map (·.1)).Nodup) : CInv (recoverRaw cfg disk) := by
  rw [recoverRaw_eq]
  refine ⟨fun i => ?_, ((List.take_sublist _ _).map _).nodup (scanned_nodup cfg disk hd)⟩
  simp [places, accIds, handIds, recEntry, Function.comp_def]

def pipeline (s : St) : List Nat :=
  s.taken.map (·.1) ++ s.outW.map (·.id) ++ handIds s.hand ++ s.inQ.map (·.id)

def Fifo (s : St) : Prop := (pipeline s).Sublist (accIds s)

theorem shape_fifo {s s' : St} {a : IAct} (h : Shape s a s') (hf : Fifo s) : Fifo s' := by
  unfold Fifo pipeline at *
  cases h with
  | push hh | load hh hq | take _ ho => simpa [*, accIds, handIds] using hf
  | qdrop hh hq =>
    refine List.Sublist.trans ?_ hf
    simp [hh, hq, handIds]
  | enq _ hid =>
    simp only [accIds, List.map_append, List.map_cons, List.map_nil, hid, ← List.append_assoc]
    exact hf.append (List.Sublist.refl _)
  | adrop =>
    simp only [accIds, List.map_append]
    exact hf.trans (List.sublist_append_left _ _)
  | destroy =>
    refine List.Sublist.trans ?_ hf
    simp [handIds, List.append_assoc]
  | _ => exact hf

def Win (s : St) : Prop := s.outW.length ≤ s.cfg.memCap
def QB (s : St) : Prop := s.inQ.length ≤ s.cfg.queueCap
def Drained (s : St) : Prop := s.destroyed = true → s.inQ = [] ∧ s.hand = none ∧ s.outW = []

theorem shape_win {s s' : St} {a : IAct} (h : Shape s a s') (hw : Win s) : Win s' := by
  unfold Win at *
  cases h with
  | push _ hlt => simp only [List.length_append, List.length_cons, List.length_nil]; omega
  | take _ ho => simp only [ho, List.length_cons] at hw ⊢; omega
  | destroy => exact Nat.zero_le _
  | _ => exact hw

theorem settle_window : ∀ (n : Nat) (s : St), s.outW.length ≤ s.cfg.memCap → (settle n s).outW.length ≤ (settle n s).cfg.memCap :=
  settle_ind Win fun _ _ h => shape_win (feederStep_shape h)

theorem shape_qb {s s' : St} {a : IAct} (h : Shape s a s') (hq : QB s) : QB s' := by
  unfold QB at *
  cases h with
  | load _ he | qdrop _ he => simp only [he, List.length_cons] at hq ⊢; omega
  | enq _ _ _ hlt => simp only [List.length_append, List.length_cons, List.length_nil]; omega
  | destroy => exact Nat.zero_le _
  | _ => exact hq

/-- once destroyed, the feeder has nothing to move and nothing is accepted or taken -/
theorem shape_drained {s s' : St} {a : IAct} (h : Shape s a s') (hd : Drained s) : Drained s' := by
  intro hd'
  cases h with
  | destroy => exact ⟨rfl, rfl, rfl⟩
  | enq hnd | adrop hnd | take hnd => exact absurd (hnd.symm.trans hd') (by decide)
  | push hh => exact absurd ((hd hd').2.1.symm.trans hh) (by simp)
  | load _ hq | qdrop _ hq => exact absurd ((hd hd').1.symm.trans hq) (by simp)
  | _ => exact hd hd'

structure Bounds (s : St) : Prop where
  fifo : Fifo s
  win : Win s
  queue : QB s
  drained : Drained s

theorem recoverRaw_bounds (cfg : Cfg) (disk : List (Nat × Bytes)) : Bounds (recoverRaw cfg disk) := by
  rw [recoverRaw_eq]
  refine ⟨?_, ?_, ?_, ?_⟩ <;>
    simp [Fifo, pipeline, Win, QB, Drained, accIds, handIds, recEntry, Function.comp_def, Nat.min_le_left]

theorem bounds_every_schedule {cfg : Cfg} {disk : List (Nat × Bytes)} {as : List IAct} {s : St}
    (h : runI (recoverRaw cfg disk) as = some s) : Bounds s :=
  runI_inv_shape (fun hs hb => ⟨shape_fifo hs hb.fifo, shape_win hs hb.win, shape_qb hs hb.queue, shape_drained hs hb.drained⟩)
    h (recoverRaw_bounds cfg disk)

end C03
