import SlogModel.Lemmas.Buffer

/-!
  Memory invariant of the buffer model at quiescent points: every queued entry is unloaded, so the
  loaded chunks inside the buffer are the output window plus at most one in the feeder's hand —
  helper lemmas for `Props/C03.lean`.
-/

open Buffer
namespace C03

def AllUnloaded (s : St) : Prop := ∀ e ∈ s.inQ, e.data = none

/-- the feeder cannot move: nothing queued, or blocked on the full window with a chunk in hand -/
def Quiet (s : St) : Prop := (s.hand = none → s.inQ = []) ∧ (s.hand ≠ none → s.cfg.memCap ≤ s.outW.length)

/-- feeder steps left at most: two per queued entry (take it in hand, push it), one for a chunk in hand -/
def work (s : St) : Nat := 2 * s.inQ.length + (handEntry s.hand).length

theorem feederStep_none (s : St) (h : feederStep s = none) : Quiet s := by
  revert h
  -- the two branches of `feederStep` that return `none`: case2 the window is full, case3 nothing is queued
  fun_cases feederStep s <;> intro h <;> cases h
  case case2 hh hlt => exact ⟨fun hn => (nomatch hn ▸ hh), fun _ => by omega⟩
  case case3 hh hq => exact ⟨fun _ => hq, fun hn => absurd hh hn⟩

theorem feederStep_sizes {s s' : St} (h : feederStep s = some s') :
    work s' < work s ∧ s'.inQ.length + (handEntry s'.hand).length ≤ s.inQ.length + (handEntry s.hand).length := by
  cases feederStep_shape h with
  | push h1 => simp only [work, handEntry, h1, List.length_cons, List.length_nil]; omega
  | load h1 h2 | qdrop h1 h2 =>
    simp only [work, handEntry, h1, h2, List.length_cons, List.length_nil]; omega

theorem settle_quiet : ∀ (n : Nat) (s : St), work s < n → Quiet (settle n s)
  | 0, _, h => by omega
  | n + 1, s, h => by
    unfold settle
    cases hf : feederStep s with
    | none => exact feederStep_none s hf
    | some s' =>
      have := (feederStep_sizes hf).1
      exact settle_quiet n s' (by omega)

theorem quiesce_quiet (s : St) : Quiet (quiesce s) := by
  unfold quiesce
  apply settle_quiet
  unfold work handEntry
  split <;> simp <;> omega

theorem feederStep_unloaded (s s' : St) (h : feederStep s = some s') (hu : AllUnloaded s) : AllUnloaded s' := by
  cases feederStep_shape h with
  | push => exact hu
  | load _ h2 | qdrop _ h2 => exact fun x hx => hu x (h2 ▸ List.mem_cons_of_mem _ hx)

/-- at most one chunk is on its way to the window: the state after an unspilled `accept` into an idle buffer -/
def Small (s : St) : Prop := s.inQ.length + (handEntry s.hand).length ≤ 1

theorem quiet_small_unloaded (s : St) (hq : Quiet s) (hs : Small s) : AllUnloaded s := by
  have : s.inQ = [] := by
    cases hh : s.hand with
    | none => exact hq.1 hh
    | some p =>
      simp [Small, handEntry, hh] at hs
      exact hs
  intro e he; rw [this] at he; cases he

structure MInv (s : St) : Prop where
  quiet : Quiet s
  unl : AllUnloaded s

/-- after the feeder has run: unloaded entries stay unloaded; a single loaded one is gone from the queue -/
theorem quiesce_minv (s : St) (h : AllUnloaded s ∨ Small s) : MInv (quiesce s) := by
  refine ⟨quiesce_quiet s, ?_⟩
  rcases h with h | h
  · exact settle_ind AllUnloaded feederStep_unloaded _ s h
  · exact quiet_small_unloaded _ (quiesce_quiet s) (settle_ind Small (fun _ _ hf hu => Nat.le_trans (feederStep_sizes hf).2 hu) _ s h)

theorem step_minv {s s' : St} {o : Op} (h : step s o = some s') (hm : MInv s) : MInv s' := by
  obtain ⟨s0, hr, h⟩ := Option.map_eq_some_iff.mp (step_eq_raw s o ▸ h)
  have hs : Shape s (.op o) s0 := stepI_shape hr
  subst h
  cases hs with
  | enq _ _ hdata =>
    refine quiesce_minv _ ?_
    rcases hdata with hn | ⟨_, hw⟩
    · exact .inl (forall_mem_snoc hm.unl hn)
    · -- the window is below half its capacity, so the feeder is not blocked: the queue was empty
      right
      have hnone : s.hand = none := Decidable.byContradiction fun hh => by
        have := hm.quiet.2 hh
        omega
      simp [Small, handEntry, hnone, hm.quiet.1 hnone]
  | adrop | take => exact quiesce_minv _ (Or.inl hm.unl)
  | destroy => exact ⟨⟨fun _ => rfl, fun hn => absurd rfl hn⟩, fun _ he => nomatch he⟩
  | _ => exact ⟨hm.quiet, hm.unl⟩

theorem run_recover_minv {cfg : Cfg} {disk : List (Nat × Bytes)} {ops : List Op} {s : St}
    (h : run (recover cfg disk) ops = some s) : MInv s := by
  rw [run_eq_runOpt] at h
  refine runOpt_inv step_minv h ?_
  rw [recover_eq, recoverRaw_eq]
  refine quiesce_minv _ (Or.inl fun e he => ?_)
  obtain ⟨f, _, rfl⟩ := List.mem_map.mp he
  rfl

end C03
