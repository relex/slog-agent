import SlogModel.Model.Buffer
import SlogModel.Lemmas.Run

/-!
  Every schedule of the feeder goroutine.  `Buffer.step` runs the feeder to quiescence after `accept` and
  `take` (the points at which the correspondence compares the real buffer with the model).  Here the
  feeder's steps are actions of their own, interleaved arbitrarily with the operations — including a
  start at which chunks are accepted before the feeder has moved a single recovered chunk.  A run of the
  quiescing model is one of these schedules, legal if the run was (`run_schedule`), so an invariant is proved
  for the single actions `stepI` only and holds for both systems.
-/

open Buffer
namespace C03

def accIds (s : St) : List Nat := s.accepted.map (·.1)

/-- what the environment promises: chunk ids are new, and nobody tampers with the queue directory -/
def okOp (s : St) : Op → Prop
  | .accept id _ => id ∉ accIds s ∧ id ∉ s.disk.map (·.1)
  | .extZero _ => False
  | .extRemove _ => False
  | _ => True

def Legal : St → List Op → Prop
  | _, [] => True
  | s, o :: os => okOp s o ∧ ∀ s', step s o = some s' → Legal s' os

/-- the operations without the feeder: `accept` and `take` as they are before any feeder step -/
def stepRaw (s : St) : Op → Option St
  | .accept id data => if s.destroyed then none else some (accept s id data)
  | .take =>
    if s.destroyed then none else
    match s.outW with
    | [] => none
    | e :: rest => some { s with outW := rest, held := s.held ++ [e], taken := s.taken ++ [(e.id, e.data.getD [])] }
  | .confirm id => step s (.confirm id)
  | .handBack id => step s (.handBack id)
  | .destroy => step s .destroy
  | .finish => step s .finish
  | .extZero id => step s (.extZero id)
  | .extRemove id => step s (.extRemove id)

inductive IAct where
  | op (o : Op)
  | feed            -- one step of the feeder goroutine
  deriving Repr

def stepI (s : St) : IAct → Option St
  | .op o => stepRaw s o
  | .feed => feederStep s

def runI (s : St) : List IAct → Option St
  | [] => some s
  | a :: as => match stepI s a with | some s' => runI s' as | none => none

def okI (s : St) : IAct → Prop
  | .op o => okOp s o
  | .feed => True

def LegalI : St → List IAct → Prop
  | _, [] => True
  | s, a :: as => okI s a ∧ ∀ s', stepI s a = some s' → LegalI s' as

/-- the state a generation starts in, before the feeder has run -/
def recoverRaw (cfg : Cfg) (disk : List (Nat × Bytes)) : St := (scanned cfg disk).foldl (recStep cfg) (start cfg disk)

theorem recover_eq (cfg : Cfg) (disk : List (Nat × Bytes)) : recover cfg disk = quiesce (recoverRaw cfg disk) := rfl

theorem step_eq_raw (s : St) (o : Op) :
    step s o = (stepRaw s o).map (fun s' => match o with | .accept _ _ => quiesce s' | .take => quiesce s' | _ => s') := by
  cases o with
  | accept id data => simp only [step, stepRaw]; split <;> rfl
  | take =>
    simp only [step, stepRaw]
    split
    · rfl
    · cases s.outW <;> rfl
  | _ => simp [stepRaw]

theorem run_eq_runOpt : run = runOpt step :=
  runOpt_unique (fun _ => rfl) (fun s a as => by rw [run]; cases step s a <;> rfl)

theorem runI_eq_runOpt : runI = runOpt stepI :=
  runOpt_unique (fun _ => rfl) (fun s a as => by rw [runI]; cases stepI s a <;> rfl)

theorem runI_trans {s s1 s2 : St} {a b : List IAct} (h1 : runI s a = some s1) (h2 : runI s1 b = some s2) :
    runI s (a ++ b) = some s2 := by
  rw [runI_eq_runOpt] at *; exact runOpt_trans h1 h2

theorem settle_ind (P : St → Prop) (hstep : ∀ s s', feederStep s = some s' → P s → P s') (n : Nat) (s : St) (h : P s) :
    P (settle n s) := by
  fun_induction settle n s with
  | case1 => exact h
  | case2 n s s' hf ih => exact ih (hstep s s' hf h)
  | case3 => exact h

theorem settle_feeds (n : Nat) (s : St) : ∃ k, runI s (List.replicate k IAct.feed) = some (settle n s) :=
  settle_ind (fun s' => ∃ k, runI s (List.replicate k IAct.feed) = some s')
    (fun s1 s2 hf ⟨k, hk⟩ => ⟨k + 1, List.replicate_succ' ▸ runI_trans hk (by simp [runI, stepI, hf])⟩) n s ⟨0, rfl⟩

theorem step_feeds {s s1 : St} {o : Op} (h : step s o = some s1) :
    ∃ s0 k, stepRaw s o = some s0 ∧ runI s0 (List.replicate k IAct.feed) = some s1 := by
  obtain ⟨s0, hr, h⟩ := Option.map_eq_some_iff.mp (step_eq_raw s o ▸ h)
  refine ⟨s0, ?_⟩
  cases o with
  | accept _ _ | take => subst h; exact (settle_feeds _ s0).imp fun k hk => ⟨hr, hk⟩
  | _ => subst h; exact ⟨0, hr, rfl⟩

theorem legalI_feeds {as : List IAct} : ∀ (k : Nat) {s s1 : St}, runI s (List.replicate k IAct.feed) = some s1 →
    LegalI s1 as → LegalI s (List.replicate k IAct.feed ++ as)
  | 0, _, _, h, hl => by cases h; exact hl
  | k + 1, s, s1, h, hl => by
    simp only [List.replicate_succ, runI] at h
    refine ⟨trivial, fun s2 hs => ?_⟩
    rw [hs] at h
    exact legalI_feeds k h hl

theorem run_schedule {s s' : St} {ops : List Op} (h : run s ops = some s') :
    ∃ as, runI s as = some s' ∧ (Legal s ops → LegalI s as) := by
  rw [run_eq_runOpt] at h
  refine runOpt_induction (C := fun s ops s' => ∃ as, runI s as = some s' ∧ (Legal s ops → LegalI s as))
    (fun s => ⟨[], rfl, fun _ => trivial⟩) ?_ h
  intro s o s1 os s' hs _ ⟨as, has, hlas⟩
  obtain ⟨s0, k, hr, hk⟩ := step_feeds hs
  refine ⟨IAct.op o :: (List.replicate k IAct.feed ++ as), ?_, fun hl => ⟨hl.1, fun s2 h2 => ?_⟩⟩
  · exact runI_trans (a := [.op o]) (by simp [runI, stepI, hr]) (runI_trans hk has)
  · simp only [stepI, hr, Option.some.injEq] at h2
    subst h2
    exact legalI_feeds k hk (hlas (hl.2 s1 hs))

theorem recover_schedule {cfg : Cfg} {disk : List (Nat × Bytes)} {ops : List Op} {s : St}
    (h : run (recover cfg disk) ops = some s) :
    ∃ as, runI (recoverRaw cfg disk) as = some s ∧ (Legal (recover cfg disk) ops → LegalI (recoverRaw cfg disk) as) := by
  obtain ⟨as, has, hlas⟩ := run_schedule h
  obtain ⟨k, hk⟩ := settle_feeds (2 * (recoverRaw cfg disk).inQ.length + 2) (recoverRaw cfg disk)
  exact ⟨List.replicate k IAct.feed ++ as, runI_trans hk has, fun hl => legalI_feeds k hk (hlas hl)⟩

end C03
