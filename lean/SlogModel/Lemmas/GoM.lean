import SlogModel.Basic

/-!
  `GoM` programs without unfolding the monad: `ok_bind` / `pure_eq` evaluate a program along known values,
  `bind_eq_ok_iff` inverts a hypothesis about its result, and `Safe` with its rules proves
  "no panic" forwards along the program text.  `idx` and `slice`, the two checked operations of `Basic`, are
  characterised here as well.
-/

namespace GoM
variable {α β : Type}

theorem ok_bind (a : α) (f : α → GoM β) : (Except.ok a >>= f) = f a := rfl
theorem pure_eq (a : α) : (pure a : GoM α) = .ok a := rfl

theorem bind_eq_ok_iff {m : GoM α} {f : α → GoM β} {b : β} :
    (m >>= f) = .ok b ↔ ∃ a, m = .ok a ∧ f a = .ok b := by
  cases m with
  | error e => exact ⟨fun h => (nomatch h), fun ⟨_, h, _⟩ => (nomatch h)⟩
  | ok a => exact ⟨fun h => ⟨a, rfl, h⟩, fun ⟨_, h, hf⟩ => Except.ok.inj h ▸ hf⟩

def Safe (m : GoM α) : Prop := ∃ a, m = .ok a

theorem safe_ok (a : α) : Safe (.ok a : GoM α) := ⟨a, rfl⟩

theorem safe_bind {m : GoM α} {f : α → GoM β} (hm : m.Safe) (hf : ∀ a, m = .ok a → (f a).Safe) : (m >>= f).Safe := by
  obtain ⟨a, rfl⟩ := hm
  exact hf a rfl

theorem safe_guard {c : Prop} [Decidable c] {a : α} {m : GoM α} (h : ¬ c → m.Safe) : (if c then pure a else m).Safe := by
  split
  · exact safe_ok a
  · exact h ‹_›

theorem safe_ite {c : Prop} [Decidable c] {m n : GoM α} (hm : c → m.Safe) (hn : ¬ c → n.Safe) : (if c then m else n).Safe := by
  split
  · exact hm ‹_›
  · exact hn ‹_›

end GoM

theorem idx_of_lt {s : Bytes} {i : Nat} (h : i < s.length) : idx s i = .ok s[i] := by
  unfold idx; rw [List.getElem?_eq_getElem h]

theorem slice_of_le {s : Bytes} {i j : Nat} (h1 : i ≤ j) (h2 : j ≤ s.length) :
    slice s i j = .ok ((s.drop i).take (j - i)) :=
  if_pos ⟨h1, h2⟩

theorem slice_to_end (t : Bytes) (i : Nat) (h : i ≤ t.length) : slice t i t.length = .ok (t.drop i) := by
  rw [slice_of_le h (Nat.le_refl _), List.take_of_length_le (Nat.le_of_eq List.length_drop)]

theorem GoM.safe_idx {s : Bytes} {i : Nat} (h : i < s.length) : (idx s i).Safe := ⟨_, idx_of_lt h⟩
theorem GoM.safe_slice {s : Bytes} {i j : Nat} (h1 : i ≤ j) (h2 : j ≤ s.length) : (slice s i j).Safe := ⟨_, slice_of_le h1 h2⟩
