import SlogModel.Lemmas.BufferData

/-!
  Space invariant of the buffer model: the bytes of the files in the queue directory never exceed the
  `persistent_chunk_bytes` gauge, and the gauge never exceeds the configured limit (or what was
  already there at the start, when that is more) — helper lemmas for `Props/C03.lean`.  `legal_every_schedule` at the end
  is the one induction over legal schedules: conservation, byte identity and the space bound together.
-/

open Buffer
namespace C03

structure SpInv (B : Int) (s : St) : Prop where
  sb : (diskBytes s.disk : Int) ≤ s.c.gBytes
  qb : s.c.gBytes ≤ B
  mb : (s.cfg.maxBytes : Int) ≤ B

theorem Space.spInv {B : Int} {s s' : St} (h : Space s.cfg.maxBytes s.disk s.c s'.disk s'.c) (hcfg : s'.cfg = s.cfg)
    (hsp : SpInv B s) : SpInv B s' := by
  have hb := h.bytes
  have hq := h.quota
  have := hsp.sb
  have := hsp.qb
  have := hsp.mb
  exact ⟨by omega, by omega, hcfg ▸ hsp.mb⟩

/-- without tampering the file of a held chunk holds the chunk's bytes, so `confirm` lowers the gauge by no more than leaves the directory -/
theorem confirm_size (s : St) (hi : CInv s) (hd : DInv s) (id : Nat) (e : Entry) (d' : Bytes)
    (he : s.held.find? (fun e => e.id = id) = some e) (hl : lookup s.disk e.id = some d') :
    dataLen e ≤ d'.length := by
  cases hdta : e.data with
  | none => simp [dataLen, hdta]
  | some d =>
    have hm := List.mem_of_find?_eq_some he
    have h1 := hd.h e hm d hdta
    have h2 := Assoc.mem_of_get hl
    have hacc : e.id ∈ accIds s := List.mem_map.mpr ⟨(e.id, d), h1, rfl⟩
    have h3 := hd.disk (e.id, d') h2 hacc
    have := Assoc.eq_of_mem (a := (e.id, d)) (b := (e.id, d')) hi.nodup h1 h3 rfl
    simp at this
    simp [dataLen, hdta, this]

theorem shape_sp {B : Int} {s s' : St} {a : IAct} (h : Shape s a s') (hok : okI s a) (hi : CInv s) (hd : DInv s)
    (hsp : SpInv B s) :
    SpInv B s' := by
  cases h with
  | push | take => exact { hsp with }
  | finish => exact hsp
  | load _ _ _ hb | qdrop _ _ _ hb | enq _ _ _ _ _ hb | adrop _ _ hb | keptBack _ _ hb | dropBack _ hb | destroy _ _ _ hb =>
    exact hb.toSpace.spInv (s := s) rfl hsp
  | confirmed he _ _ hs => exact (hs fun d' hl => confirm_size s hi hd _ _ d' he hl).spInv (s := s) rfl hsp
  | extZero | extRemove => exact hok.elim

theorem scanned_bytes (cfg : Cfg) (disk : List (Nat × Bytes)) (h : cfg.hasDir = true) :
    diskBytes (scanned cfg disk) = diskBytes disk := by
  unfold scanned diskBytes
  simp only [h, if_true]
  exact ((List.mergeSort_perm disk _).map _).sum_nat

theorem recoverRaw_sp (cfg : Cfg) (disk : List (Nat × Bytes)) (h : cfg.hasDir = true) :
    SpInv (max (cfg.maxBytes : Int) (diskBytes disk)) (recoverRaw cfg disk) := by
  -- after recovery the gauge is exactly the bytes found in the directory
  have hb := scanned_bytes cfg disk h
  unfold diskBytes at hb
  rw [recoverRaw_eq]
  refine ⟨?_, ?_, ?_⟩ <;> simp [recCounters, hb, diskBytes] <;> omega

theorem legal_every_schedule {cfg : Cfg} {disk : List (Nat × Bytes)} (hd : (disk.map (·.1)).Nodup) {as : List IAct} {s : St}
    (h : runI (recoverRaw cfg disk) as = some s) (hl : LegalI (recoverRaw cfg disk) as) :
    CInv s ∧ DInv s ∧ (cfg.hasDir = true → SpInv (max (cfg.maxBytes : Int) (diskBytes disk)) s) :=
  runI_ind_shape (P := fun s => CInv s ∧ DInv s ∧ (cfg.hasDir = true → SpInv (max (cfg.maxBytes : Int) (diskBytes disk)) s))
    (fun hs hok hp =>
      ⟨shape_cinv hs hok hp.1, shape_dinv hs hok hp.1.cons hp.2.1, fun hdir => shape_sp hs hok hp.1 hp.2.1 (hp.2.2 hdir)⟩)
    h hl ⟨recoverRaw_cinv cfg disk hd, recoverRaw_dinv cfg disk hd, recoverRaw_sp cfg disk⟩

end C03
