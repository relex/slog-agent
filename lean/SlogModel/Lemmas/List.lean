/-!
  Counting and order in lists, as the conservation and ordering invariants of the transition systems use them.
  A clause `∀ x ∈ l, p x` travels along the list a rule extends or cuts: core's `List.forall_mem_cons` / `forall_mem_append`, and `forall_mem_snoc`.
  Conservation is stated with `List.count` and closed by `omega`; the `if` of every counting lemma is on `d = x`, in this
  orientation, so that `omega` meets the same atom on both sides of an equation.
-/

section
variable {α : Type} [DecidableEq α]

theorem count_cons_ite (x d : α) (l : List α) : (x :: l).count d = l.count d + if d = x then 1 else 0 := by
  by_cases h : d = x
  · simp [h]
  · simp [h, Ne.symm h]

theorem count_snoc_ite (l : List α) (x d : α) : (l ++ [x]).count d = l.count d + if d = x then 1 else 0 := by
  rw [List.count_append, count_cons_ite, List.count_nil, Nat.zero_add]

theorem count_filter_ne (l : List α) (c d : α) : (l.filter (· ≠ c)).count d = if d = c then 0 else l.count d := by
  by_cases h : d = c
  · subst h; simp [List.count_eq_zero]
  · rw [List.count_filter (by simpa using h), if_neg h]

theorem count_erase_add {l : List α} {t : α} (h : t ∈ l) (c : α) :
    (l.erase t).count c + (if c = t then 1 else 0) = l.count c := by
  have : 1 ≤ l.count t := List.count_pos_iff.mpr h
  rw [List.count_erase]
  by_cases e : c = t
  · subst e; simp; omega
  · simp [e, Ne.symm e]

theorem nodup_of_count_le {l m : List α} (hm : m.Nodup) (h : ∀ c, l.count c ≤ m.count c) : l.Nodup :=
  List.nodup_iff_count.mpr fun c => Nat.le_trans (h c) (List.nodup_iff_count.mp hm c)

end

theorem forall_mem_snoc {α : Type} {p : α → Prop} {l : List α} {a : α} (hl : ∀ x ∈ l, p x) (ha : p a) : ∀ x ∈ l ++ [a], p x :=
  List.forall_mem_append.mpr ⟨hl, List.forall_mem_singleton.mpr ha⟩

theorem pairwise_mergeSort_key {α : Type} (f : α → Nat) (l : List α) :
    (l.mergeSort fun a b => f a ≤ f b).Pairwise fun a b => f a ≤ f b := by
  have := List.pairwise_mergeSort (le := fun a b => decide (f a ≤ f b))
    (fun a b c h1 h2 => by simp at *; omega) (fun a b => by simp; omega) l
  simpa using this

theorem pairwise_lt_snoc {l : List Nat} {c : Nat} (h : l.Pairwise (· < ·)) (hc : ∀ t ∈ l, t < c) :
    (l ++ [c]).Pairwise (· < ·) := by
  rw [List.pairwise_append]
  exact ⟨h, by simp, fun a ha b hb => by simp at hb; subst hb; exact hc a ha⟩

theorem pairwise_lt_of_le_of_nodup {l : List Nat} (h1 : l.Pairwise (· ≤ ·)) (h2 : l.Nodup) : l.Pairwise (· < ·) :=
  (h1.and h2).imp fun ⟨hle, hne⟩ => Nat.lt_of_le_of_ne hle hne
