import SlogModel.Lemmas.Client

/-!
  The fault-free future of the client (helper lemmas for `C02_healthy_future_confirms_everything`).

  `healthy` are the actions a run consists of once the upstream behaves: connect succeeds, every send succeeds, every ACK
  read returns the ACK of the chunk the acknowledger waits for.  From a *good* state — between sessions, or inside a session
  in which no fault has happened yet — every such action keeps the state good and lowers the measure `mu`, and when none of
  them is enabled nothing is left to do: leftovers, queue and session hold no chunk.
-/

open Client
namespace C02

def healthy : List Act := [.connectOk, .takeLeft, .recoveryDone, .takeInput, .sendOk, .pushAck, .ackRecv, .ackOk none]

/-- a session in which nothing has gone wrong: the sender is not collecting leftovers, the acknowledger runs and tracks exactly
the chunk it is reading the ACK of, the connection is open -/
structure GoodSess (s : St) (x : Sess) : Prop where
  col : x.collecting = none
  ack : x.ackEnded = false
  conn : x.connClosed = false
  sent : x.sentOk = true → x.lastC.isSome = true
  tidy : x.pending = x.ackCur.toList
  reco : x.normal = true → s.left = []

structure Good (s : St) : Prop where
  fin : s.finished = false
  sess : ∀ x, s.sess = some x → GoodSess s x

def sessMu (x : Sess) : Nat :=
  (if x.normal then 0 else 1) + (match x.lastC with | none => 0 | some _ => if x.sentOk then 4 else 5) +
    3 * x.ackChan.length + 2 * x.pending.length

/-- work left: 6 per chunk waiting, 5 / 4 for the chunk in hand before / after its transmission, 3 per chunk queued for
the acknowledger, 2 for the chunk whose ACK is being read; 2 for a missing session, 1 for an unfinished recovery stage -/
def mu (s : St) : Nat :=
  6 * (s.left.length + s.queue.length) + (match s.sess with | none => 2 | some x => sessMu x)

theorem Good.of_sess {s : St} {x : Sess} (hf : s.finished = false) (hs : s.sess = some x) (g : GoodSess s x) : Good s :=
  ⟨hf, fun _ hy => Option.some.inj (hs.symm.trans hy) ▸ g⟩

theorem healthy_step {s s' : St} {a : Act} (ha : a ∈ healthy) (h : Step s a s') (hg : Good s) :
    Good s' ∧ mu s' < mu s := by
  obtain ⟨hfin, hgs⟩ := hg
  -- with nothing in hand nothing was sent from the hand
  have hso : ∀ x, s.sess = some x → x.lastC = none → x.sentOk = false := fun x hs hc =>
    Bool.eq_false_iff.mpr fun hb => by simpa [hc] using (hgs x hs).sent hb
  cases h
  case connectOk hs _ => exact ⟨.of_sess hfin rfl ⟨rfl, rfl, rfl, nofun, rfl, nofun⟩, by simp [mu, hs, sessMu]⟩
  case takeLeft x c rest hs hl hn hc _ =>
    refine ⟨.of_sess hfin rfl { hgs x hs with sent := fun _ => rfl, reco := fun h => by simp [hn] at h }, ?_⟩
    simp [mu, sessMu, hs, hl, hc, hso x hs hc]
    omega
  case recoveryDone x hs hl hn _ _ =>
    exact ⟨.of_sess hfin rfl { hgs x hs with reco := fun _ => hl }, by simp [mu, sessMu, hs, hn]⟩
  case takeInput x c rest hs hq _ hc _ =>
    refine ⟨.of_sess hfin rfl { hgs x hs with sent := fun _ => rfl }, ?_⟩
    simp [mu, sessMu, hs, hq, hc, hso x hs hc]
    omega
  case sendOk x c hs hc hso' _ _ =>
    exact ⟨.of_sess hfin rfl { hgs x hs with sent := fun _ => by simp [hc] }, by simp [mu, sessMu, hs, hc, hso']⟩
  case pushAck x c hs hc hso' _ _ =>
    refine ⟨.of_sess hfin rfl { hgs x hs with sent := nofun }, ?_⟩
    simp [mu, sessMu, hs, hc, hso']
    omega
  case ackRecv x c rest hs hch _ hcur =>
    -- the acknowledger was idle, so nothing was pending
    have hp : x.pending = [] := by rw [(hgs x hs).tidy, hcur]; rfl
    refine ⟨.of_sess hfin rfl { hgs x hs with tidy := by simp [hp] }, ?_⟩
    simp [mu, sessMu, hs, hch, hp]
    omega
  case ackOk x cur id t hs hcur _ ht =>
    -- the ACK is the one for the chunk the acknowledger waits for, the only pending one
    have hp : x.pending = [cur] := by rw [(hgs x hs).tidy, hcur]; rfl
    have ht : t = cur := by
      rcases ht with ⟨_, ht⟩ | ⟨hid, _⟩
      · exact ht
      · simp [healthy, hid] at ha
    subst ht
    exact ⟨.of_sess hfin rfl { hgs x hs with tidy := by simp [hp] }, by simp [mu, sessMu, hs, hp]⟩
  case collect ha' => rcases ha' with rfl | rfl | rfl <;> simp [healthy] at ha
  case ackEnd ha' => rcases ha' with ⟨rfl, _⟩ | ⟨rfl, _⟩ <;> simp [healthy] at ha
  all_goals simp [healthy] at ha

theorem healthy_stuck (s : St) (hg : Good s) (hstuck : ∀ a ∈ healthy, step s a = none) :
    s.left = [] ∧ s.queue = [] ∧ inflight s = [] := by
  -- each thing left to do enables a rule of a healthy action
  have no : ∀ {a s'}, Step s a s' → a ∈ healthy → False := fun h ha => nomatch (hstuck _ ha).symm.trans h.to_step
  cases hs : s.sess with
  | none => exact (no (.connectOk hs hg.fin) (by simp [healthy])).elim
  | some x =>
    have g := hg.sess x hs
    have hcur : x.ackCur = none := Option.eq_none_iff_forall_ne_some.mpr fun cur hb =>
      no (.ackOk hs hb g.conn (.inl ⟨rfl, rfl⟩)) (by simp [healthy])
    have hp : x.pending = [] := by rw [g.tidy, hcur]; rfl
    have hch : x.ackChan = [] := by
      cases hb : x.ackChan with
      | nil => rfl
      | cons c rest => exact (no (.ackRecv hs hb g.ack hcur) (by simp [healthy])).elim
    have hl : x.lastC = none := Option.eq_none_iff_forall_ne_some.mpr fun c hb => by
      cases hso : x.sentOk with
      | true => exact no (.pushAck hs hb hso (by simp [hch, ackCap]) g.col) (by simp [healthy])
      | false => exact no (.sendOk hs hb hso g.conn g.col) (by simp [healthy])
    cases hn : x.normal with
    | false =>
      cases hle : s.left with
      | nil => exact (no (.recoveryDone hs hle hn hl g.col) (by simp [healthy])).elim
      | cons c rest => exact (no (.takeLeft hs hle hn hl g.col) (by simp [healthy])).elim
    | true =>
      have hle := g.reco hn
      cases hq : s.queue with
      | nil => exact ⟨hle, rfl, by simp [inflight, hs, hle, hl, hch, hp, g.col]⟩
      | cons c rest => exact (no (.takeInput hs hq hn hl g.col) (by simp [healthy])).elim

theorem healthy_run : ∀ (acts : List Act) (s s' : St), (∀ a ∈ acts, a ∈ healthy) → run s acts = some s' → Good s →
    Good s' ∧ acts.length + mu s' ≤ mu s :=
  fun _ _ _ hall h hg => runOpt_measure (fun ha hs => healthy_step ha (.of_step hs)) hall (run_eq_runOpt ▸ h) hg

end C02
