import SlogModel.Lemmas.Client
import SlogModel.Lemmas.E2E

/-!
  Refinement: the client transition system `Client.step` implements the client-side actions of the
  chunk-level end-to-end system `E2E.step` (take, ack, connFail, stop).

  `Rel base c e` relates a client state `c` to a chunk-level state `e`: the chunks waiting (leftovers
  ahead of the buffer's queue) are `e.queue`, the chunks held by the current session are `e.inflight`,
  the client's confirmations are what `e.acked` gained, and after `OnFinished` everything handed back
  plus what the client never took is `e.disk`.  `sim_step` shows that every client action is either
  invisible at chunk level or exactly one `E2E` action (`mapAct`), for every reachable client state;
  `sim_run` lifts it to runs.  With it the contracts `E2E.step` assumes of the client — unacknowledged
  chunks go back oldest first ahead of everything newer, a confirmation removes exactly the acknowledged
  chunk, a stop leaves everything unacknowledged for the disk — are theorems about `Client.step`, not
  readings of it.
-/

namespace ClientRefine
open Client C02

def sessHeld (x : Sess) : List Nat := x.pending ++ x.ackChan ++ x.lastC.toList

/-- chunks held by the current session, oldest first -/
def held (s : St) : List Nat := match s.sess with | some x => sessHeld x | none => []

def sessPrev (x : Sess) : List Nat := x.collecting.getD []

/-- chunks waiting to be (re)transmitted: leftovers, then the buffer's queue -/
def waiting (s : St) : List Nat := (match s.sess with | some x => sessPrev x | none => []) ++ s.left ++ s.queue

structure Rel (base : List Nat) (c : St) (e : E2E.St) : Prop where
  cur : e.cur = []
  acked : e.acked = base ++ c.confirmed
  run : c.finished = false → e.running = true ∧ e.queue = waiting c ∧ e.inflight = held c
  fin : c.finished = true → e.running = false ∧ e.queue = [] ∧ e.inflight = [] ∧ e.disk = c.handed ++ c.queue

/-- the chunk-level action a client action stands for (`none`: invisible at chunk level) -/
def mapAct (s : St) : Act → Option E2E.Act
  | .takeLeft | .takeInput => some .take
  | .ackOk id =>
    match s.sess with
    | some x =>
      match x.ackCur with
      | some cur =>
        match id with
        | none => some (.ack cur)
        | some i => if i ∈ x.pending then some (.ack i) else none
      | none => none
    | none => none
  | .finishCollect => some .connFail
  | .workerFinal => some .stop
  | _ => none

def applyOpt (e : E2E.St) : Option E2E.Act → Option E2E.St
  | none => some e
  | some a => E2E.step e a

/-- `E2E`'s disk is written once, by `stop`: until then the client has handed nothing back -/
def HInv0 (s : St) : Prop := s.finished = false → s.handed = []

theorem step_hinv0 {s s' : St} {a : Act} (h : Step s a s') (hi : HInv0 s) : HInv0 s' := by
  -- only `workerFinal` writes `handed`, and it sets `finished`
  cases h <;> simp_all [HInv0]

structure All (s : St) : Prop where
  inv : Inv s
  o : OInv s
  f : FInv s
  h : HInv0 s

theorem step_all {s s' : St} {a : Act} (h : Step s a s') (hi : All s) : All s' :=
  ⟨step_inv h hi.inv, step_oinv h hi.inv hi.o, step_finv h hi.f, step_hinv0 h hi.h⟩

theorem init_all (q : List Nat) (hq : q.Pairwise (· < ·)) : All (init q) := by
  have hn : q.Nodup := by
    refine List.Pairwise.imp ?_ hq
    intro a b hab; exact Nat.ne_of_lt hab
  exact ⟨init_inv q hn, init_oinv q hq, by intro hf; simp [init] at hf, by intro _; simp [init]⟩

theorem held_waiting_perm (s : St) : (held s ++ waiting s).Perm (inflight s ++ s.queue) := by
  refine List.perm_iff_count.mpr fun c => ?_
  unfold held waiting sessHeld sessPrev inflight
  cases s.sess <;> simp only [List.count_append, List.count_nil] <;> omega

theorem held_waiting_nodup (s : St) (hi : Inv s) : (held s ++ waiting s).Nodup :=
  (held_waiting_perm s).nodup_iff.mpr
    (nodup_of_count_le hi.nodup fun c => by have := hi.cons c; simp only [List.count_append] at this ⊢; omega)

theorem held_waiting_nil_of_inflight_nil (c : St) (h : inflight c = []) (hq : c.queue = []) :
    held c = [] ∧ waiting c = [] :=
  List.append_eq_nil_iff.mp (List.Perm.eq_nil (by simpa [h, hq] using held_waiting_perm c))

theorem mem_held_taken (s : St) (hi : Inv s) (c : Nat) (h : c ∈ held s) : c ∈ s.taken := by
  apply mem_taken_of_inflight hi
  unfold held sessHeld at h
  unfold inflight
  cases hs : s.sess with
  | none => simp [hs] at h
  | some x =>
    simp [hs] at h ⊢
    rcases h with h | h | h <;> simp [h]

theorem not_finished_of_sess (s : St) (hf : FInv s) (x : Sess) (hs : s.sess = some x) : s.finished = false :=
  Bool.eq_false_iff.mpr fun h => nomatch hs.symm.trans (hf h).1

theorem rel_stutter {base : List Nat} {s s' : St} {a : Act} {e : E2E.St} (h : Step s a s') (hm : mapAct s a = none)
    (hr : Rel base s e) : Rel base s' e := by
  have hv : s'.finished = s.finished ∧ s'.confirmed = s.confirmed ∧ waiting s' = waiting s ∧ held s' = held s ∧
      s'.handed = s.handed ∧ s'.queue = s.queue := by
    cases h
    case takeLeft | takeInput | finishCollect | workerFinal => simp [mapAct] at hm
    case ackOk x cur id t hs hcur _ ht =>
      rcases ht with ⟨rfl, rfl⟩ | ⟨rfl, hp⟩
      · simp [mapAct, hs, hcur] at hm
      · simp [mapAct, hs, hcur, hp] at hm
    case sendErr x _ hs _ _ hcol | collect x hs hcol _ =>
      cases hn : x.normal <;> simp [waiting, held, sessHeld, sessPrev, Sess.collect, hs, hcol, hn]
    all_goals simp [waiting, held, sessHeld, sessPrev, *]
  obtain ⟨hfin, hconf, hwait, hheld, hhand, hq⟩ := hv
  exact ⟨hr.cur, hconf ▸ hr.acked, fun hf => hwait ▸ hheld ▸ hr.run (hfin ▸ hf),
    fun hf => hhand ▸ hq ▸ hr.fin (hfin ▸ hf)⟩

theorem rel_take {base : List Nat} {c c' : St} {e : E2E.St} {ch : Nat} (hr : Rel base c e) (hnf : c.finished = false)
    (hnf' : c'.finished = false) (hc : c'.confirmed = c.confirmed) (hw : waiting c = ch :: waiting c')
    (hh : held c' = held c ++ [ch]) : ∃ e', E2E.step e .take = some e' ∧ Rel base c' e' := by
  obtain ⟨hrun, hq, hin⟩ := hr.run hnf
  refine ⟨{ e with queue := waiting c', inflight := e.inflight ++ [ch], sentLog := e.sentLog ++ [(e.conn, ch)] }, ?_,
    hr.cur, by rw [hc]; exact hr.acked, fun _ => ⟨hrun, rfl, by rw [hh, ← hin]⟩, fun hf => by simp [hnf'] at hf⟩
  exact (E2E.Step.take hrun (hq.trans hw)).to_step

theorem sim_step (base : List Nat) (c c' : St) (a : Act) (e : E2E.St) (h : step c a = some c') (hi : All c)
    (hr : Rel base c e) : ∃ e', applyOpt e (mapAct c a) = some e' ∧ Rel base c' e' := by
  have stutter : ∀ {a c'}, Step c a c' → mapAct c a = none → ∃ e', applyOpt e (mapAct c a) = some e' ∧ Rel base c' e' :=
    fun hs hm => ⟨e, by rw [hm]; rfl, rel_stutter hs hm hr⟩
  cases Step.of_step h
  case takeLeft x ch rest hs hl _ hc hcol =>
    have hnf := not_finished_of_sess c hi.f x hs
    exact rel_take (ch := ch) hr hnf hnf rfl (by simp [waiting, hs, sessPrev, hcol, hl]) (by simp [held, sessHeld, hs, hc])
  case takeInput x ch rest hs hq hn hc hcol =>
    have hnf := not_finished_of_sess c hi.f x hs
    have hleft : c.left = [] := (hi.inv.sess x hs).2 (.inl hn)
    exact rel_take (ch := ch) hr hnf hnf rfl (by simp [waiting, hs, sessPrev, hcol, hq, hleft]) (by simp [held, sessHeld, hs, hc])
  case ackOk x cur id t hs hcur _ ht =>
    -- the acknowledged chunk `t` is pending; removing it from the session is the chunk-level `ack t`
    have hnf := not_finished_of_sess c hi.f x hs
    obtain ⟨hrun, hq, hin⟩ := hr.run hnf
    have htp : t ∈ x.pending := acked_mem (hi.inv.sess x hs) hcur ht
    have hm : mapAct c (.ackOk id) = some (.ack t) := by
      rcases ht with ⟨rfl, rfl⟩ | ⟨rfl, hp⟩
      · simp [mapAct, hs, hcur]
      · simp [mapAct, hs, hcur, hp]
    have hmem : t ∈ e.inflight := by rw [hin]; simp [held, hs, sessHeld, htp]
    refine ⟨{ e with inflight := e.inflight.filter (· ≠ t), acked := e.acked ++ [t] }, ?_, ?_⟩
    · rw [hm]; exact (E2E.Step.ack hrun hmem).to_step
    · refine ⟨hr.cur, by simp [hr.acked], fun _ => ⟨hrun, ?_, ?_⟩, fun hf => by simp [hnf] at hf⟩
      · simp [waiting, sessPrev, hq, hs]
      · -- no chunk is held twice, so erasing `t` from `pending` is filtering it out of everything held
        have hnd : (held c).Nodup := (List.nodup_append.mp (held_waiting_nodup c hi.inv)).1
        rw [hin]
        simp only [held, hs, sessHeld] at hnd ⊢
        have := List.Nodup.erase_eq_filter hnd t
        rw [List.append_assoc, List.erase_append_left _ htp] at this
        rw [List.append_assoc, List.append_assoc, this]
        congr 1
        funext z; by_cases hz : z = t <;> simp [bne, hz]
  case finishCollect x prev hs hcol _ =>
    -- everything unacknowledged goes back ahead of the queue, oldest first: both sides sort the same distinct ids
    have hnf := not_finished_of_sess c hi.f x hs
    obtain ⟨hrun, hq, hin⟩ := hr.run hnf
    have hleft : c.left = [] := (hi.inv.sess x hs).2 (.inr (by simp [hcol]))
    have hsort : E2E.sortIds (held c ++ waiting c) =
        newLeft (prev ++ x.ackChan ++ x.pending ++ x.lastC.toList) ++ c.queue := by
      -- the state after the step satisfies the invariants too: its leftovers, ahead of the queue, are in order
      have hi' := step_all (.of_step h) hi
      refine C01.sortIds_eq_of_sorted _ _ (held_waiting_nodup c hi.inv) (left_queue_sorted hi'.inv hi'.o) fun z => ?_
      simp [held, waiting, hs, sessHeld, sessPrev, hcol, hleft, newLeft_mem, or_comm, or_left_comm, or_assoc]
    refine ⟨{ e with queue := E2E.sortIds (e.inflight ++ e.queue), inflight := [], conn := e.conn + 1 }, ?_, ?_⟩
    · exact (E2E.Step.connFail hrun).to_step
    · refine { hr with run := fun _ => ⟨hrun, ?_, by simp [held]⟩, fin := fun hf => by simp [hnf] at hf }
      simp only [hin, hq, hsort]; simp [waiting]
  case workerFinal hs _ hnf =>
    -- the leftovers and what was never taken are sorted already: the disk gets them as they stand
    obtain ⟨hrun, hq, hin⟩ := hr.run hnf
    have hhand : c.handed = [] := hi.h hnf
    have hq' : e.inflight ++ e.queue = c.left ++ c.queue := by rw [hin, hq]; simp [held, waiting, hs]
    refine ⟨{ e with disk := E2E.sortIds (e.inflight ++ e.queue), queue := [], inflight := [], running := false }, ?_, ?_⟩
    · exact (E2E.Step.stop hrun hr.cur).to_step
    · refine { hr with run := fun hf => by simp at hf, fin := fun _ => ⟨rfl, rfl, rfl, ?_⟩ }
      simp only [hq', C01.sortIds_of_sorted _ (left_queue_sorted hi.inv hi.o), hhand]; simp
  case ackUnknown x cur i hs hcur _ hi' => exact stutter (.of_step h) (by simp [mapAct, hs, hcur, hi'])
  case collect ha => exact stutter (.of_step h) (by rcases ha with rfl | rfl | rfl <;> rfl)
  case ackEnd ha => exact stutter (.of_step h) (by rcases ha with ⟨rfl, _⟩ | ⟨rfl, _⟩ <;> rfl)
  all_goals exact stutter (.of_step h) rfl

theorem applyOpt_run (e e' : E2E.St) (o : Option E2E.Act) (h : applyOpt e o = some e') : E2E.run e o.toList = some e' := by
  cases o with
  | none => simp [applyOpt] at h; subst h; rfl
  | some a => simp [applyOpt] at h; simp [E2E.run, h]

theorem e2e_run_append (s : E2E.St) (a b : List E2E.Act) :
    E2E.run s (a ++ b) = match E2E.run s a with | some s' => E2E.run s' b | none => none := by
  rw [E2E.run_eq_runOpt, runOpt_append]; cases runOpt E2E.step s a <;> rfl

/-- the chunk-level actions a client run stands for -/
def mapRun : St → List Act → List E2E.Act
  | _, [] => []
  | s, a :: as => match step s a with
    | some s' => (mapAct s a).toList ++ mapRun s' as
    | none => []

theorem sim_run (base : List Nat) : ∀ (acts : List Act) (c c' : St) (e : E2E.St), run c acts = some c' → All c → Rel base c e →
    ∃ e', E2E.run e (mapRun c acts) = some e' ∧ Rel base c' e' := by
  intro acts c c' e h
  refine runOpt_induction
    (C := fun c acts c' => ∀ e, All c → Rel base c e → ∃ e', E2E.run e (mapRun c acts) = some e' ∧ Rel base c' e')
    (fun c e _ hr => ⟨e, rfl, hr⟩) (fun c a c1 as c' hs _ ih e hi hr => ?_) (run_eq_runOpt ▸ h) e
  obtain ⟨e1, h1, hr1⟩ := sim_step base c c1 a e hs hi hr
  obtain ⟨e', h2, hr2⟩ := ih e1 (step_all (.of_step hs) hi) hr1
  refine ⟨e', ?_, hr2⟩
  simp only [mapRun, hs]
  exact E2E.run_trans (applyOpt_run e e1 _ h1) h2

theorem mapRun_length (acts : List Act) (c : St) : (mapRun c acts).length ≤ acts.length := by
  fun_induction mapRun c acts
  -- `case2`: the action is enabled; the other two branches of `mapRun` return `[]`
  case case2 s a as _ _ ih =>
    have : (mapAct s a).toList.length ≤ 1 := by cases mapAct s a <;> simp
    simp only [List.length_append, List.length_cons]; omega
  all_goals simp

theorem rel_init (q : List Nat) (e0 : E2E.St) (hr : e0.running = true) (hc : e0.cur = []) (hi : e0.inflight = [])
    (hq : e0.queue = q) : Rel e0.acked (init q) e0 :=
  ⟨hc, by simp [init], by intro _; exact ⟨hr, by simp [waiting, init, hq], by simp [held, init, hi]⟩,
    by intro h; simp [init] at h⟩

def clientSide : E2E.Act → Bool
  | .take | .ack _ | .connFail | .stop => true
  | _ => false

theorem mapAct_clientSide (s : St) (a : Act) : ∀ b ∈ (mapAct s a).toList, clientSide b = true := by
  fun_cases mapAct s a <;> simp [clientSide]

theorem mapRun_clientSide (acts : List Act) (c : St) : ∀ b ∈ mapRun c acts, clientSide b = true := by
  fun_induction mapRun c acts
  case case2 s a as _ _ ih => exact List.forall_mem_append.mpr ⟨mapAct_clientSide s a, ih⟩
  all_goals simp

structure Frame (e e' : E2E.St) : Prop where
  content : e'.content = e.content
  nextRec : e'.nextRec = e.nextRec
  dropped : e'.dropped = e.dropped
  nextChunk : e'.nextChunk = e.nextChunk
  cur : e'.cur = []

theorem step_frame {e e' : E2E.St} {a : E2E.Act} (h : E2E.step e a = some e') (hc : clientSide a = true) (hcur : e.cur = []) :
    Frame e e' := by
  cases E2E.Step.of_step h
  case take | ack | connFail | stop => exact ⟨rfl, rfl, rfl, rfl, hcur⟩
  case flushStop h1 => cases h1; contradiction
  all_goals simp [clientSide] at hc

theorem run_frame : ∀ (acts : List E2E.Act) (e e' : E2E.St), E2E.run e acts = some e' → (∀ b ∈ acts, clientSide b = true) →
    e.cur = [] → Frame e e' := fun _ e _ h hall hcur =>
  runOpt_inv_on (P := fun e' => Frame e e') (ok := fun b => clientSide b = true)
    (fun hc hs f1 =>
      have f2 := step_frame hs hc f1.cur
      ⟨f2.content.trans f1.content, f2.nextRec.trans f1.nextRec, f2.dropped.trans f1.dropped,
        f2.nextChunk.trans f1.nextChunk, f2.cur⟩)
    hall (E2E.run_eq_runOpt ▸ h) ⟨rfl, rfl, rfl, rfl, hcur⟩

end ClientRefine
