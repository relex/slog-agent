import SlogModel.Props.C15

/-!
  Totality of the transform interpreter on well-formed programs (used by C07 and C16):
  a program whose template variables are fields of the record and whose extractors satisfy what
  `newStringExtractor` guarantees never panics, and keeps the number of field slots.
-/

open Xform C15 GoM

namespace XT

def partOK (n : Nat) : Route.Part → Prop
  | .lit _ => True
  | .var i => i < n
  | .slice i _ _ => i < n

mutual
def stepWF (n : Nat) : Step → Prop
  | .addFields pairs => ∀ p ∈ pairs, ∀ part ∈ p.2, partOK n part
  | .delFields _ => True
  | .mapValue _ _ _ => True
  | .iff _ thn => stepsWF n thn
  | .switch cases => casesWF n cases
  | .block steps => stepsWF n steps
  | .drop _ _ _ => True
  | .extract e _ _ => e.WF
  | .truncate _ _ _ => True
  | .unescape _ => True
  | .redactEmail _ => True
  | .parseTime _ => True
  | .opaque _ _ => True
def stepsWF (n : Nat) : List Step → Prop
  | [] => True
  | s :: r => stepWF n s ∧ stepsWF n r
def casesWF (n : Nat) : List (Xform.Match × List Step) → Prop
  | [] => True
  | (_, thn) :: r => stepsWF n thn ∧ casesWF n r
end

theorem partValue_safe {src : List Bytes} {p : Route.Part} (hp : partOK src.length p) :
    (Route.partValue src p).Safe := by
  cases p with
  | lit s => exact safe_ok s
  | var i => rw [Route.partValue, List.getElem?_eq_getElem hp]; exact safe_ok _
  | slice i a b => rw [Route.partValue, List.getElem?_eq_getElem hp]; exact safe_ok _

theorem expand_safe {src : List Bytes} {parts : List Route.Part} (hp : ∀ p ∈ parts, partOK src.length p) :
    (Route.expand parts src).Safe := by
  unfold Route.expand
  generalize ([] : Bytes) = acc
  induction parts generalizing acc with
  | nil => exact safe_ok acc
  | cons p ps ih =>
    rw [List.foldlM_cons]
    exact safe_bind (safe_bind (partValue_safe (hp p (by simp))) fun _ _ => safe_ok _)
      fun acc' _ => ih (fun q hq => hp q (by simp [hq])) acc'

theorem addPairs_ok (n : Nat) (pairs : List (Nat × List Route.Part)) (r : Rec) (hl : r.fields.length = n)
    (hp : ∀ p ∈ pairs, ∀ part ∈ p.2, partOK n part) :
    ∃ r', addPairs r pairs = .ok r' ∧ r'.fields.length = n := by
  induction pairs generalizing r with
  | nil => exact ⟨r, rfl, hl⟩
  | cons p ps ih =>
    obtain ⟨dst, parts⟩ := p
    obtain ⟨v, hv⟩ := expand_safe (src := r.fields) (hl ▸ hp (dst, parts) (by simp))
    rw [addPairs, hv, ok_bind]
    apply ih
    · split
      · rw [Rec.length_set]; exact hl
      · exact hl
    · exact fun q hq => hp q (by simp [hq])

/-- result of a successful step keeps the number of field slots -/
def Good (n : Nat) (x : GoM (Res × Rec × XState)) : Prop := ∃ res r st, x = .ok (res, r, st) ∧ r.fields.length = n

theorem Good.ok {n : Nat} {res : Res} {r : Rec} {st : XState} (h : r.fields.length = n) : Good n (.ok (res, r, st)) :=
  ⟨res, r, st, rfl, h⟩

theorem Good.ite {n : Nat} {c : Prop} [Decidable c] {a b : GoM (Res × Rec × XState)} (ha : Good n a) (hb : Good n b) :
    Good n (if c then a else b) := by
  split
  · exact ha
  · exact hb

theorem Good.bind {n : Nat} {α : Type} {m : GoM α} {f : α → GoM (Res × Rec × XState)} (hm : m.Safe)
    (hf : ∀ a, m = .ok a → Good n (f a)) : Good n (m >>= f) := by
  obtain ⟨a, rfl⟩ := hm
  exact hf a rfl

mutual
theorem runStep_total (n : Nat) (st : XState) (r : Rec) (hl : r.fields.length = n) :
    (s : Step) → stepWF n s → Good n (runStep st r s)
  | .addFields pairs, h => by
    obtain ⟨r', h1, h2⟩ := addPairs_ok n pairs r hl h
    rw [runStep, h1]
    exact .ok h2
  | .delFields keys, _ => .ok ((Rec.length_delFields keys r).trans hl)
  | .mapValue key mapping dflt, _ => .ite (.ok hl) (.ok ((Rec.length_set ..).trans hl))
  | .iff m thn, h => .ite (runSteps_total n st r hl thn h) (.ok hl)
  | .switch cases, h => runCases_total n st r hl cases h
  | .block steps, h => runSteps_total n st r hl steps h
  | .drop m rate id, _ => by
    refine .ite (.ok hl) (.ite (.ok hl) ?_)
    split
    exact .ok hl
  | .extract e key dest, h => by
    have hx : (if e.fromEnd then extractEnd e (r.get key) else extractStart e (r.get key)).Safe := by
      cases hf : e.fromEnd
      · exact C15_extract_head_total e _ h hf
      · exact C15_extract_tail_total e _ h hf
    refine .ite (.ok hl) (.bind hx fun o _ => ?_)
    split
    · exact .ok hl
    · exact .ite (.ok ((Rec.length_set ..).trans ((Rec.length_set ..).trans hl))) (.ok hl)
  | .truncate key maxLen suffix, _ => .ok ((Rec.length_set ..).trans hl)
  | .unescape key, _ => by
    refine .ite (.ok hl) (.ok ?_)
    split
    · exact hl
    · exact (Rec.length_set ..).trans hl
  | .redactEmail key, _ => .ite (.ok hl) (.ok ((Rec.length_set ..).trans hl))
  | .parseTime key, _ => by
    rw [runStep]
    split <;> exact .ok hl
  | .opaque _ _, _ => .ok hl

theorem runSteps_total (n : Nat) (st : XState) (r : Rec) (hl : r.fields.length = n) :
    (l : List Step) → stepsWF n l → Good n (runSteps st r l)
  | [], _ => .ok hl
  | s :: rest, h => by
    obtain ⟨res, r1, st1, h1, h2⟩ := runStep_total n st r hl s h.1
    rw [runSteps_cons, h1]
    cases res with
    | drop => exact .ok h2
    | pass => exact runSteps_total n st1 r1 h2 rest h.2

theorem runCases_total (n : Nat) (st : XState) (r : Rec) (hl : r.fields.length = n) :
    (l : List (Xform.Match × List Step)) → casesWF n l → Good n (runCases st r l)
  | [], _ => .ok hl
  | (_, thn) :: rest, h => .ite (runSteps_total n st r hl thn h.1) (runCases_total n st r hl rest h.2)
end

end XT
