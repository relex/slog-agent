import SlogModel.Model.Dist
import SlogModel.Lemmas.Run
import SlogModel.Lemmas.List

/-!
  `Dist.upd` / `upd2` as `if` equations, what survives an update, and `Dist.run` as `runOpt` (for `Props/C05Path.lean`).
-/

namespace Dist

theorem upd_apply (f : Nat → List R) (i : Nat) (v : List R) (j : Nat) : upd f i v j = if j = i then v else f j := rfl

theorem upd2_apply (f : Nat → Nat → List R) (i k : Nat) (v : List R) (j l : Nat) :
    upd2 f i k v j l = if j = i ∧ l = k then v else f j l := rfl

theorem forall_upd {f : Nat → List R} {i : Nat} {v : List R} {P : Nat → R → Prop} (h : ∀ c, ∀ r ∈ f c, P c r)
    (hv : ∀ r ∈ v, P i r) : ∀ c, ∀ r ∈ upd f i v c, P c r := by
  intro c r
  rw [upd_apply]
  split
  · rename_i e; exact e ▸ hv r
  · exact h c r

theorem forall_upd2 {g : Nat → Nat → List R} {i k : Nat} {v : List R} {P : Nat → Nat → R → Prop}
    (h : ∀ c k, ∀ r ∈ g c k, P c k r) (hv : ∀ r ∈ v, P i k r) : ∀ c k', ∀ r ∈ upd2 g i k v c k', P c k' r := by
  intro c k' r
  rw [upd2_apply]
  split
  · rename_i e; exact e.1 ▸ e.2 ▸ hv r
  · exact h c k' r

theorem run_eq_runOpt : run = runOpt step :=
  runOpt_unique (fun _ => rfl) (fun s a as => by rw [run]; cases step s a <;> rfl)

end Dist
