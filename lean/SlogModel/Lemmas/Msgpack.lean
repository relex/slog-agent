import SlogModel.Model.Msgpack

/-!
  `Dec d bs v` says that `bs` is a complete encoding of `v`, whatever follows it.  One lemma per wire format the
  encoders emit, each containing its body; the `fastmsgpack` primitives choose among them; sequences and maps compose.
-/

namespace MP

def Dec (d : Nat) (bs : Bytes) (v : Val) : Prop := ∀ rest, decode d (bs ++ rest) = some (v, rest)
def DecSeq (d n : Nat) (bs : Bytes) (l : List Val) : Prop := ∀ rest, decodeSeq d n (bs ++ rest) = some (l, rest)
def DecPairs (d n : Nat) (bs : Bytes) (kv : List (Val × Val)) : Prop :=
  ∀ rest, decodePairs d n (bs ++ rest) = some (kv, rest)

theorem Dec.closed {d : Nat} {bs : Bytes} {v : Val} (h : Dec d bs v) : decode d bs = some (v, []) := by
  simpa using h []

theorem be32_val (n : Nat) (h : n < 4294967296) :
    n / 16777216 % 256 * 16777216 + n / 65536 % 256 * 65536 + n / 256 % 256 * 256 + n % 256 = n := by
  -- the digits as nested `/ 256`, so that `omega` sees small divisors
  have e1 : n / 65536 = n / 256 / 256 := by rw [Nat.div_div_eq_div_mul]
  have e2 : n / 16777216 = n / 256 / 256 / 256 := by rw [Nat.div_div_eq_div_mul, Nat.div_div_eq_div_mul]
  rw [e1, e2]
  omega

theorem rd16_be16 (n : Nat) (h : n < 65536) (r : Bytes) : rd16 (be16 n ++ r) = some (n, r) := by
  simp [rd16, be16]; omega

theorem rd32_be32 (n : Nat) (h : n < 4294967296) (r : Bytes) : rd32 (be32 n ++ r) = some (n, r) := by
  simp [rd32, be32, be32_val n h]

-- two 32-bit halves, each by `be32_val`, not eight digits at once
theorem rd64_be64 (n : Nat) (h : n < 18446744073709551616) (r : Bytes) : rd64 (be64 n ++ r) = some (n, r) := by
  have h1 : n / 4294967296 < 4294967296 := by omega
  have h2 : n % 4294967296 < 4294967296 := by omega
  show some ((_ * 16777216 + _ * 65536 + _ * 256 + _) * 4294967296 + (_ * 16777216 + _ * 65536 + _ * 256 + _), r) = _
  rw [be32_val _ h1, be32_val _ h2, Nat.div_add_mod']

theorem takeN_append (v r : Bytes) : takeN v.length (v ++ r) = some (v, r) := by
  simp [takeN]

/-! what `decode` does on any input that starts with a given format code -/

theorem decode_fixstr (d c : Nat) (r : Bytes) (h1 : 160 ≤ c) (h2 : c < 192) :
    decode d (c :: r) = (takeN (c - 160) r).map (fun (s, r') => (.str s, r')) := by
  rw [decode.eq_def]
  have a1 : ¬ (c < 128) := by omega
  have a2 : ¬ (c < 144) := by omega
  have a3 : ¬ (c < 160) := by omega
  simp [a1, a2, a3, h2]

theorem decode_str8 (d : Nat) (r : Bytes) :
    decode d (217 :: r) = (rd8 r).bind (fun (n, r1) => (takeN n r1).map (fun (s, r') => (.str s, r'))) := by
  rw [decode.eq_def]; simp

theorem decode_str16 (d : Nat) (r : Bytes) :
    decode d (218 :: r) = (rd16 r).bind (fun (n, r1) => (takeN n r1).map (fun (s, r') => (.str s, r'))) := by
  rw [decode.eq_def]; simp

theorem decode_str32 (d : Nat) (r : Bytes) :
    decode d (219 :: r) = (rd32 r).bind (fun (n, r1) => (takeN n r1).map (fun (s, r') => (.str s, r'))) := by
  rw [decode.eq_def]; simp

theorem decode_bin8 (d : Nat) (r : Bytes) :
    decode d (196 :: r) = (rd8 r).bind (fun (n, r1) => (takeN n r1).map (fun (s, r') => (.bin s, r'))) := by
  rw [decode.eq_def]; simp

theorem decode_bin16 (d : Nat) (r : Bytes) :
    decode d (197 :: r) = (rd16 r).bind (fun (n, r1) => (takeN n r1).map (fun (s, r') => (.bin s, r'))) := by
  rw [decode.eq_def]; simp

theorem decode_bin32 (d : Nat) (r : Bytes) :
    decode d (198 :: r) = (rd32 r).bind (fun (n, r1) => (takeN n r1).map (fun (s, r') => (.bin s, r'))) := by
  rw [decode.eq_def]; simp

theorem decode_int64 (d : Nat) (r : Bytes) :
    decode d (211 :: r) =
      (rd64 r).bind (fun (n, r') => if n < 9223372036854775808 then some (.uint n, r') else none) := by
  rw [decode.eq_def]; simp

theorem decode_fixext8 (d : Nat) (r : Bytes) :
    decode d (215 :: r) = (rd8 r).bind (fun (ty, r1) => (takeN 8 r1).map (fun (s, r') => (.ext ty s, r'))) := by
  rw [decode.eq_def]; simp

theorem decode_fixmap (d c : Nat) (r : Bytes) (h1 : 128 ≤ c) (h2 : c < 144) :
    decode (d + 1) (c :: r) = (decodePairs d (c - 128) r).map (fun (kv, r') => (.map kv, r')) := by
  rw [decode.eq_def]
  have a1 : ¬ (c < 128) := by omega
  simp [a1, h2]

theorem decode_map16 (d : Nat) (r : Bytes) :
    decode (d + 1) (222 :: r) =
      (rd16 r).bind (fun (n, r1) => (decodePairs d n r1).map (fun (kv, r') => (.map kv, r'))) := by
  rw [decode.eq_def]; simp

theorem decode_fixarray (d c : Nat) (r : Bytes) (h1 : 144 ≤ c) (h2 : c < 160) :
    decode (d + 1) (c :: r) = (decodeSeq d (c - 144) r).map (fun (l, r') => (.arr l, r')) := by
  rw [decode.eq_def]
  have a1 : ¬ (c < 128) := by omega
  have a2 : ¬ (c < 144) := by omega
  simp [a1, a2, h2]

theorem decode_array16 (d : Nat) (r : Bytes) :
    decode (d + 1) (220 :: r) =
      (rd16 r).bind (fun (n, r1) => (decodeSeq d n r1).map (fun (l, r') => (.arr l, r'))) := by
  rw [decode.eq_def]; simp

theorem decode_array32 (d : Nat) (r : Bytes) :
    decode (d + 1) (221 :: r) =
      (rd32 r).bind (fun (n, r1) => (decodeSeq d n r1).map (fun (l, r') => (.arr l, r'))) := by
  rw [decode.eq_def]; simp

/-! the encodings the encoders emit -/

theorem dec_fixstr (d : Nat) (v : Bytes) (h : v.length < 32) : Dec d ((160 + v.length) :: v) (.str v) := by
  intro rest
  rw [List.cons_append, decode_fixstr _ _ _ (by omega) (by omega), Nat.add_sub_cancel_left, takeN_append]
  rfl

theorem dec_str8 (d : Nat) (v : Bytes) : Dec d (217 :: v.length :: v) (.str v) := by
  intro rest
  rw [List.cons_append, List.cons_append, decode_str8, rd8]
  simp [takeN_append]

theorem dec_str16 (d : Nat) (v : Bytes) (h : v.length < 65536) : Dec d (218 :: be16 v.length ++ v) (.str v) := by
  intro rest
  rw [List.cons_append, List.cons_append, decode_str16, List.append_assoc, rd16_be16 _ h]
  simp [takeN_append]

theorem dec_str32 (d : Nat) (v : Bytes) (h : v.length < 4294967296) : Dec d (219 :: be32 v.length ++ v) (.str v) := by
  intro rest
  rw [List.cons_append, List.cons_append, decode_str32, List.append_assoc, rd32_be32 _ h]
  simp [takeN_append]

theorem dec_bin8 (d : Nat) (v : Bytes) : Dec d (196 :: v.length :: v) (.bin v) := by
  intro rest
  rw [List.cons_append, List.cons_append, decode_bin8, rd8]
  simp [takeN_append]

theorem dec_bin16 (d : Nat) (v : Bytes) (h : v.length < 65536) : Dec d (197 :: be16 v.length ++ v) (.bin v) := by
  intro rest
  rw [List.cons_append, List.cons_append, decode_bin16, List.append_assoc, rd16_be16 _ h]
  simp [takeN_append]

theorem dec_bin32 (d : Nat) (v : Bytes) (h : v.length < 4294967296) : Dec d (198 :: be32 v.length ++ v) (.bin v) := by
  intro rest
  rw [List.cons_append, List.cons_append, decode_bin32, List.append_assoc, rd32_be32 _ h]
  simp [takeN_append]

theorem dec_int64 (d n : Nat) (h : n < 9223372036854775808) : Dec d (211 :: be64 n) (.uint n) := by
  intro rest
  rw [List.cons_append, decode_int64, rd64_be64 n (by omega)]
  simp [h]

theorem dec_fixext8 (d ty : Nat) (s : Bytes) (h : s.length = 8) : Dec d (215 :: ty :: s) (.ext ty s) := by
  intro rest
  have := takeN_append s rest
  rw [h] at this
  rw [List.cons_append, List.cons_append, decode_fixext8, rd8]
  simp [this]

variable {d n : Nat} {bs : Bytes}

theorem dec_fixmap {kv : List (Val × Val)} (h : n < 16) (hb : DecPairs d n bs kv) :
    Dec (d + 1) ((128 + n) :: bs) (.map kv) := by
  intro rest
  rw [List.cons_append, decode_fixmap _ _ _ (by omega) (by omega), Nat.add_sub_cancel_left, hb rest]
  rfl

theorem dec_map16 {kv : List (Val × Val)} (h : n < 65536) (hb : DecPairs d n bs kv) :
    Dec (d + 1) (222 :: be16 n ++ bs) (.map kv) := by
  intro rest
  rw [List.cons_append, List.cons_append, decode_map16, List.append_assoc, rd16_be16 _ h]
  simp [hb rest]

theorem dec_fixarr {l : List Val} (h : n < 16) (hb : DecSeq d n bs l) : Dec (d + 1) ((144 + n) :: bs) (.arr l) := by
  intro rest
  rw [List.cons_append, decode_fixarray _ _ _ (by omega) (by omega), Nat.add_sub_cancel_left, hb rest]
  rfl

theorem dec_arr16 {l : List Val} (h : n < 65536) (hb : DecSeq d n bs l) : Dec (d + 1) (220 :: be16 n ++ bs) (.arr l) := by
  intro rest
  rw [List.cons_append, List.cons_append, decode_array16, List.append_assoc, rd16_be16 _ h]
  simp [hb rest]

theorem dec_arr32 {l : List Val} (h : n < 4294967296) (hb : DecSeq d n bs l) :
    Dec (d + 1) (221 :: be32 n ++ bs) (.arr l) := by
  intro rest
  rw [List.cons_append, List.cons_append, decode_array32, List.append_assoc, rd32_be32 _ h]
  simp [hb rest]

theorem DecSeq.nil (d : Nat) : DecSeq d 0 [] [] := fun _ => by simp [decodeSeq]

theorem DecSeq.cons {a : Bytes} {v : Val} {l : List Val} (ha : Dec d a v) (hb : DecSeq d n bs l) :
    DecSeq d (n + 1) (a ++ bs) (v :: l) := by
  intro rest; simp [decodeSeq, ha (bs ++ rest), hb rest]

theorem DecPairs.nil (d : Nat) : DecPairs d 0 [] [] := fun _ => by simp [decodePairs]

theorem DecPairs.cons {a b : Bytes} {k v : Val} {kv : List (Val × Val)} (ha : Dec d a k) (hb : Dec d b v)
    (hr : DecPairs d n bs kv) : DecPairs d (n + 1) (a ++ b ++ bs) ((k, v) :: kv) := by
  intro rest; simp [decodePairs, ha (b ++ (bs ++ rest)), hb (bs ++ rest), hr rest]

theorem DecPairs.flatten {α : Type} {m : Nat} {tl : Bytes} {kv' : List (Val × Val)} (enc : α → Bytes) (k v : α → Val)
    (l : List α) (h : ∀ x ∈ l, ∃ a b, enc x = a ++ b ∧ Dec d a (k x) ∧ Dec d b (v x)) (ht : DecPairs d m tl kv') :
    DecPairs d (l.length + m) ((l.map enc).flatten ++ tl) (l.map (fun x => (k x, v x)) ++ kv') := by
  induction l with
  | nil => simpa using ht
  | cons x xs ih =>
    obtain ⟨a, b, e, ha, hb⟩ := h x (by simp)
    have := DecPairs.cons ha hb (ih (fun y hy => h y (by simp [hy])))
    simpa [e, Nat.add_right_comm] using this

theorem dec_encStr (d : Nat) (v : Bytes) (h : v.length < 4294967296) : Dec d (encStr v) (.str v) := by
  unfold encStr
  split
  · exact dec_fixstr d v (by omega)
  · split
    · exact dec_str16 d v ‹_›
    · exact dec_str32 d v h

theorem dec_strHdrByMax (d maxLen : Nat) (v : Bytes) (hle : v.length ≤ maxLen) (h : v.length < 4294967296) :
    Dec d (strHdrByMax maxLen v.length ++ v) (.str v) := by
  unfold strHdrByMax
  split
  · exact dec_str16 d v (by omega)
  · exact dec_str32 d v h

theorem dec_mapHdrByCap {cap : Nat} {kv : List (Val × Val)} (hcap : cap < 16 → n < 16) (hn : n < 65536)
    (hb : DecPairs d n bs kv) : Dec (d + 1) (mapHdrByCap cap n ++ bs) (.map kv) := by
  unfold mapHdrByCap
  split
  · exact dec_fixmap (hcap ‹_›) hb
  · exact dec_map16 hn hb

end MP
