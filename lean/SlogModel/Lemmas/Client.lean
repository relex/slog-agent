import SlogModel.Lemmas.ClientStep
import SlogModel.Lemmas.List

/-!
  Invariants of the client transition system (helper lemmas for `Props/C02.lean`), each proved rule by rule over
  `Client.Step`, and the plans that show what the client can always do.
-/

open Client

namespace C02

def Conserved (s : St) : Prop := ∀ c, (s.taken).count c = (s.confirmed ++ s.handed ++ inflight s).count c

def SessOK (s : St) (x : Sess) : Prop :=
  (∀ c, x.ackCur = some c → c ∈ x.pending) ∧ ((x.normal = true ∨ x.collecting.isSome = true) → s.left = [])

structure Inv (s : St) : Prop where
  cons : Conserved s
  nodup : (s.taken ++ s.queue).Nodup
  sess : ∀ x, s.sess = some x → SessOK s x

theorem dedupSorted_of_nodup : ∀ (l : List Nat), l.Nodup → dedupSorted l = l
  | [], _ => rfl
  | [_], _ => rfl
  | x :: y :: r, h => by
    have hxy : x ≠ y := fun e => (List.nodup_cons.mp h).1 (e ▸ List.mem_cons_self)
    simp [dedupSorted, hxy, dedupSorted_of_nodup (y :: r) (List.nodup_cons.mp h).2]

theorem newLeft_of_nodup {l : List Nat} (h : l.Nodup) : newLeft l = l.mergeSort (· ≤ ·) :=
  dedupSorted_of_nodup _ ((List.mergeSort_perm l _).nodup_iff.mpr h)

theorem newLeft_count (l : List Nat) (h : l.Nodup) (c : Nat) : (newLeft l).count c = l.count c := by
  rw [newLeft_of_nodup h]; exact (List.mergeSort_perm l _).count_eq c

theorem dedupSorted_mem : ∀ (l : List Nat) (c : Nat), c ∈ dedupSorted l ↔ c ∈ l
  | [], _ => by simp [dedupSorted]
  | [_], _ => by simp [dedupSorted]
  | x :: y :: r, c => by
    have ih := dedupSorted_mem (y :: r) c
    simp only [dedupSorted]
    split
    · rename_i hxy; subst hxy
      rw [ih]; simp
    · simp only [List.mem_cons] at ih ⊢
      rw [ih]

theorem newLeft_mem (l : List Nat) (c : Nat) : c ∈ newLeft l ↔ c ∈ l := by
  unfold newLeft
  rw [dedupSorted_mem]
  exact (List.mergeSort_perm l _).mem_iff

theorem newLeft_sorted (l : List Nat) (h : l.Nodup) : (newLeft l).Pairwise (· < ·) := by
  rw [newLeft_of_nodup h]
  exact pairwise_lt_of_le_of_nodup (pairwise_mergeSort_key id l) ((List.mergeSort_perm l _).nodup_iff.mpr h)

variable {s s' : St} {a : Act}

theorem inflight_of_sess {x : Sess} (hs : s.sess = some x) :
    inflight s = s.left ++ (x.lastC.toList ++ x.ackChan ++ x.pending ++ x.collecting.getD []) := by
  simp [inflight, hs]

theorem step_sessOK (h : Step s a s') (hok : ∀ x, s.sess = some x → SessOK s x) : ∀ x, s'.sess = some x → SessOK s' x := by
  intro y hy
  cases h
  case stopReq | connectFail => exact hok y hy
  case finishCollect => cases hy
  case workerFinal hs _ _ => exact absurd (hs ▸ hy :) nofun
  case connectOk => cases hy; exact ⟨nofun, nofun⟩
  case takeInput x _ _ hs _ _ _ _ | sendOk x _ hs _ _ _ _ | pushAck x _ hs _ _ _ _ | escalate x _ hs _ | ackEnd x hs _ _ _ =>
    cases hy; exact hok x hs
  case takeLeft x _ _ hs _ hn _ hcol => cases hy; exact ⟨(hok x hs).1, fun h => by simp [hn, hcol] at h⟩
  case recoveryDone x hs hl _ _ _ => cases hy; exact ⟨(hok x hs).1, fun _ => hl⟩
  case sendErr x _ hs _ _ _ | collect x hs _ _ =>
    cases hy
    refine ⟨(hok x hs).1, fun _ => ?_⟩
    cases hn : x.normal
    · rfl
    · exact (hok x hs).2 (.inl hn)
  case ackRecv x c _ hs _ _ _ => cases hy; exact ⟨fun d hd => by cases hd; simp, (hok x hs).2⟩
  case ackOk x _ _ _ hs _ _ _ | ackUnknown x _ _ hs _ _ _ | ackErr x _ hs _ => cases hy; exact ⟨nofun, (hok x hs).2⟩

theorem acked_mem {x : Sess} {cur t : Nat} {id : Option Nat} (hok : SessOK s x) (hcur : x.ackCur = some cur)
    (ht : id = none ∧ t = cur ∨ id = some t ∧ t ∈ x.pending) : t ∈ x.pending := by
  rcases ht with ⟨_, rfl⟩ | ⟨_, h⟩
  · exact hok.1 _ hcur
  · exact h

theorem Inv.merged_nodup {x : Sess} {prev : List Nat} (hi : Inv s) (hs : s.sess = some x)
    (hcol : x.collecting = some prev) : (prev ++ x.ackChan ++ x.pending ++ x.lastC.toList).Nodup := by
  refine nodup_of_count_le hi.nodup fun c => ?_
  have := hi.cons c
  simp [inflight, hs, hcol, List.count_append] at this ⊢; omega

theorem Inv.resolved_nodup (hi : Inv s) : (s.confirmed ++ s.handed ++ inflight s).Nodup := by
  refine nodup_of_count_le hi.nodup fun c => ?_
  have := hi.cons c
  simp only [List.count_append] at this ⊢; omega

theorem mem_taken_of_inflight (hi : Inv s) {c : Nat} (h : c ∈ inflight s) : c ∈ s.taken := by
  have := hi.cons c
  have hpos : 0 < (inflight s).count c := List.count_pos_iff.mpr h
  have : 0 < s.taken.count c := by simp [List.count_append] at this; omega
  exact List.count_pos_iff.mp this

theorem step_inv (h : Step s a s') (hi : Inv s) : Inv s' := by
  refine ⟨fun d => ?_, ?_, step_sessOK h hi.sess⟩
  · have := hi.cons d
    cases h
    case ackOk x cur id t hs hcur _ ht =>
      have he := count_erase_add (acked_mem (hi.sess x hs) hcur ht) d
      simp only [inflight, hs, List.count_append, count_cons_ite, List.count_nil] at this he ⊢; omega
    case finishCollect x prev hs hcol _ =>
      -- the merged list holds no chunk twice, so sorting and de-duplicating it keeps every chunk once
      have hl := (hi.sess x hs).2 (.inr (by simp [hcol]))
      have hm := newLeft_count _ (hi.merged_nodup hs hcol) d
      simp [inflight, hs, hcol, hl, List.count_append] at this hm ⊢; omega
    case sendErr x _ hs _ _ hcol | collect x hs hcol _ =>
      cases hn : x.normal <;> simp [inflight, hs, hcol, hn, Sess.collect, List.count_append] at this ⊢ <;> omega
    case stopReq | connectFail => exact this
    case recoveryDone | sendOk | escalate | ackEnd | ackUnknown | ackErr =>
      rw [inflight_of_sess ‹_›] at this; exact this
    all_goals simp [inflight, List.count_append, List.count_cons, *] at this ⊢ <;> omega
  · cases h
    case takeInput hq _ _ _ => simpa [hq] using hi.nodup
    all_goals exact hi.nodup

theorem init_sessOK (q : List Nat) : ∀ x, (init q).sess = some x → SessOK (init q) x :=
  fun x hx => by simp [init] at hx

theorem init_inv (q : List Nat) (h : q.Nodup) : Inv (init q) :=
  ⟨by intro c; simp [init, inflight], by simpa [init] using h, init_sessOK q⟩

theorem run_inv {s s' : St} {acts : List Act} (h : run s acts = some s') (hi : Inv s) : Inv s' :=
  run_inv_of_step step_inv h hi

def Justified (hist : List Ev) (c : Nat) : Prop :=
  ∃ pre mid post k id, hist = pre ++ [.sendOk k c] ++ mid ++ [.ack k id, .consumed c] ++ post ∧
    (id = some c ∨ id = none)

theorem justified_append {hist : List Ev} (more : List Ev) {c : Nat} (h : Justified hist c) : Justified (hist ++ more) c := by
  obtain ⟨pre, mid, post, k, id, h1, h2⟩ := h
  exact ⟨pre, mid, post ++ more, k, id, by rw [h1]; simp [List.append_assoc], h2⟩

/-- chunks of the session whose transmission has completed: registered by the acknowledger, queued for it, or still in hand -/
def transmitted (x : Sess) : List Nat := x.pending ++ x.ackChan ++ (if x.sentOk then x.lastC.toList else [])

def Sent (s : St) : Prop :=
  ∀ x, s.sess = some x → (x.lastC = none → x.sentOk = false) ∧ ∀ c ∈ transmitted x, Ev.sendOk x.conn c ∈ s.hist

theorem step_sent (h : Step s a s') (hs : Sent s) : Sent s' := by
  -- a chunk moves from the hand to `ackChan` to `pending` and out; only `sendOk` lets one in, and logs it
  intro y hy
  cases h
  case stopReq | connectFail => exact hs y hy
  case finishCollect => cases hy
  case workerFinal hsn _ _ => exact absurd (hsn ▸ hy :) nofun
  case connectOk => cases hy; exact ⟨fun _ => rfl, by simp [transmitted]⟩
  case recoveryDone x hsx _ _ _ _ | collect x hsx _ _ | escalate x _ hsx _ | ackEnd x hsx _ _ _ => cases hy; exact hs x hsx
  case sendErr x _ hsx _ _ _ | ackUnknown x _ _ hsx _ _ _ | ackErr x _ hsx _ =>
    cases hy; exact ⟨(hs x hsx).1, fun c hc => List.mem_append_left _ ((hs x hsx).2 c hc)⟩
  case takeLeft x _ _ hsx _ _ hc _ | takeInput x _ _ hsx _ _ hc _ =>
    cases hy
    have hso := (hs x hsx).1 hc
    exact ⟨nofun, fun c hc' => (hs x hsx).2 c (by simpa [transmitted, hso] using hc')⟩
  case sendOk x c hsx hc hso _ _ =>
    cases hy
    refine ⟨fun h => (nomatch hc ▸ h), fun d hd => ?_⟩
    simp only [transmitted, hc, if_true, Option.toList_some, List.mem_append, List.mem_singleton] at hd ⊢
    rcases hd with hd | rfl
    · exact .inl ((hs x hsx).2 d (by simpa [transmitted, hso] using hd))
    · exact .inr rfl
  case pushAck x c hsx hc hso _ _ =>
    cases hy
    refine ⟨fun _ => rfl, fun d hd => (hs x hsx).2 d ?_⟩
    simp only [transmitted, hc, hso, if_true, Option.toList_some, List.mem_append, List.mem_singleton] at hd ⊢
    rcases hd with (hd | hd | hd) | hd <;> simp [hd] at *
  case ackRecv x c rest hsx hch _ _ =>
    cases hy
    refine ⟨(hs x hsx).1, fun d hd => (hs x hsx).2 d ?_⟩
    simp only [transmitted, hch, List.mem_append, List.mem_cons, List.not_mem_nil, or_false] at hd ⊢
    rcases hd with ((hd | hd) | hd) | hd <;> simp [hd]
  case ackOk x _ _ t hsx _ _ _ =>
    cases hy
    refine ⟨(hs x hsx).1, fun d hd => List.mem_append_left _ ((hs x hsx).2 d ?_)⟩
    simp only [transmitted, List.mem_append] at hd ⊢
    exact hd.imp_left (Or.imp_left List.mem_of_mem_erase)

theorem step_just (h : Step s a s') (hok : ∀ x, s.sess = some x → SessOK s x) (hs : Sent s)
    (hj : ∀ c ∈ s.confirmed, Justified s.hist c) : ∀ c ∈ s'.confirmed, Justified s'.hist c := by
  cases h
  case ackOk x cur id t hsx hcur _ ht =>
    -- the new confirmation: `t` is pending, so it was sent on this connection; the ACK and the report follow it
    obtain ⟨pre, mid, hsplit⟩ :=
      List.append_of_mem ((hs x hsx).2 t (by simp [transmitted, acked_mem (hok x hsx) hcur ht]))
    have hid : id = some t ∨ id = none := by
      rcases ht with ⟨rfl, _⟩ | ⟨rfl, _⟩ <;> simp
    exact forall_mem_snoc (fun d hd => justified_append _ (hj d hd))
      ⟨pre, mid, [], x.conn, id, by rw [hsplit]; simp [List.append_assoc], hid⟩
  case workerFinal =>
    exact fun c hc => by
      simpa [List.append_assoc] using justified_append (s.left.map Ev.leftover ++ [Ev.finished]) (hj c hc)
  case sendOk | sendErr | ackUnknown | ackErr => exact fun c hc => justified_append _ (hj c hc)
  all_goals exact hj

theorem consumedOf_append (a b : List Ev) : consumedOf (a ++ b) = consumedOf a ++ consumedOf b := by
  fun_induction consumedOf a <;> simp_all [consumedOf]

theorem leftoverOf_append (a b : List Ev) : leftoverOf (a ++ b) = leftoverOf a ++ leftoverOf b := by
  fun_induction leftoverOf a <;> simp_all [leftoverOf]

theorem leftoverOf_map (l : List Nat) : leftoverOf (l.map Ev.leftover) = l := by
  induction l <;> simp_all [leftoverOf]

theorem consumedOf_map (l : List Nat) : consumedOf (l.map Ev.leftover) = [] := by
  induction l <;> simp_all [consumedOf]

def EvInv (s : St) : Prop := consumedOf s.hist = s.confirmed ∧ leftoverOf s.hist = s.handed

theorem step_evinv (h : Step s a s') (hi : EvInv s) : EvInv s' := by
  obtain ⟨h1, h2⟩ := hi
  cases h <;>
    simp [EvInv, consumedOf_append, leftoverOf_append, consumedOf, leftoverOf, leftoverOf_map, consumedOf_map, h1, h2]

theorem run_evinv {s s' : St} {acts : List Act} (h : run s acts = some s') (hi : EvInv s) : EvInv s' :=
  run_inv_of_step step_evinv h hi

theorem sentOn_append (k : Nat) (a b : List Ev) : sentOn k (a ++ b) = sentOn k a ++ sentOn k b := by
  fun_induction sentOn k a <;> simp_all [sentOn]

theorem sentOn_map_leftover (k : Nat) (l : List Nat) : sentOn k (l.map Ev.leftover) = [] := by
  induction l <;> simp_all [sentOn]

structure SessO (s : St) (x : Sess) : Prop where
  tx : (sentOn x.conn s.hist).Pairwise (· < ·)
  below : ∀ t ∈ sentOn x.conn s.hist, (∀ l ∈ s.left, t < l) ∧ (∀ q ∈ s.queue, t < q)
  -- a chunk about to be sent is above everything sent
  hand : x.sentOk = false → x.collecting = none → ∀ c, x.lastC = some c → ∀ t ∈ sentOn x.conn s.hist, t < c
  -- the chunk in hand is below everything still waiting
  lastB : ∀ c, x.lastC = some c → (∀ l ∈ s.left, c < l) ∧ (∀ q ∈ s.queue, c < q)
  fresh : x.conn < s.nextConn

structure OInv (s : St) : Prop where
  q : s.queue.Pairwise (· < ·)
  tq : ∀ t ∈ s.taken, ∀ q ∈ s.queue, t < q
  l : s.left.Pairwise (· < ·)
  sess : ∀ x, s.sess = some x → SessO s x
  all : ∀ k, (sentOn k s.hist).Pairwise (· < ·)
  unused : ∀ k, s.nextConn ≤ k → sentOn k s.hist = []

theorem SessO.mono {x x' : Sess} (h : SessO s x) (hc : x'.conn = x.conn)
    (hh : sentOn x.conn s'.hist = sentOn x.conn s.hist) (hl : ∀ l ∈ s'.left, l ∈ s.left)
    (hq : ∀ q ∈ s'.queue, q ∈ s.queue) (hn : s.nextConn ≤ s'.nextConn)
    (hlast : ∀ c, x'.lastC = some c →
      x.lastC = some c ∧ (x'.sentOk = false → x'.collecting = none → x.sentOk = false ∧ x.collecting = none)) :
    SessO s' x' := by
  obtain ⟨tx, below, hand, lastB, fresh⟩ := h
  refine ⟨?_, ?_, ?_, ?_, ?_⟩
  · rw [hc, hh]; exact tx
  · rw [hc, hh]; exact fun t ht => ⟨fun l hl' => (below t ht).1 l (hl l hl'), fun q hq' => (below t ht).2 q (hq q hq')⟩
  · rw [hc, hh]
    intro h1 h2 c hc'
    obtain ⟨k1, k2⟩ := hlast c hc'
    exact hand (k2 h1 h2).1 (k2 h1 h2).2 c k1
  · exact fun c hc' =>
      ⟨fun l hl' => (lastB c (hlast c hc').1).1 l (hl l hl'), fun q hq' => (lastB c (hlast c hc').1).2 q (hq q hq')⟩
  · rw [hc]; exact Nat.lt_of_lt_of_le fresh hn

theorem sentOn_step (h : Step s a s') (k : Nat) :
    sentOn k s'.hist = sentOn k s.hist ∨
      ∃ x c, s.sess = some x ∧ x.lastC = some c ∧ x.sentOk = false ∧ x.collecting = none ∧ x.conn = k ∧
        sentOn k s'.hist = sentOn k s.hist ++ [c] := by
  cases h
  case sendOk x c hs hc hso _ hcol | sendErr x c hs hc hso hcol =>
    by_cases hk : x.conn = k
    · exact .inr ⟨x, c, hs, hc, hso, hcol, hk, by simp [sentOn_append, sentOn, hk]⟩
    · exact .inl (by simp [sentOn_append, sentOn, hk])
  all_goals exact .inl (by simp [sentOn_append, sentOn, sentOn_map_leftover])

theorem nextConn_le (h : Step s a s') : s.nextConn ≤ s'.nextConn := by
  cases h <;> simp

theorem step_oinv (h : Step s a s') (hi : Inv s) (ho : OInv s) : OInv s' := by
  -- the log: a send appends the chunk in hand, which is above everything sent on the connection (`SessO.hand`)
  have hall : ∀ k, (sentOn k s'.hist).Pairwise (· < ·) := fun k => by
    rcases sentOn_step h k with e | ⟨x, c, hs, hc, hso, hcol, rfl, e⟩ <;> rw [e]
    · exact ho.all k
    · exact pairwise_lt_snoc (ho.all _) ((ho.sess x hs).hand hso hcol c hc)
  have hun : ∀ k, s'.nextConn ≤ k → sentOn k s'.hist = [] := fun k hk => by
    have hk' := Nat.le_trans (nextConn_le h) hk
    rcases sentOn_step h k with e | ⟨x, c, hs, _, _, _, rfl, _⟩
    · rw [e]; exact ho.unused k hk'
    · exact absurd hk' (Nat.not_le.mpr (ho.sess x hs).fresh)
  obtain ⟨oq, otq, ol, os, oall, oun⟩ := ho
  refine ⟨?_, ?_, ?_, fun y hy => ?_, hall, hun⟩
  · cases h
    case takeInput hq _ _ _ => exact (List.pairwise_cons.mp (hq ▸ oq)).2
    all_goals exact oq
  · cases h
    case takeInput c rest _ hq _ _ _ =>
      rw [hq] at oq otq
      exact forall_mem_snoc (fun t ht q hq' => otq t ht q (List.mem_cons_of_mem _ hq')) (List.pairwise_cons.mp oq).1
    all_goals exact otq
  · cases h
    case takeLeft hl _ _ _ => exact (List.pairwise_cons.mp (hl ▸ ol)).2
    case sendErr | collect => dsimp only; split; exact ol; exact .nil
    case finishCollect hs hcol _ => exact newLeft_sorted _ (hi.merged_nodup hs hcol)
    case workerFinal => exact .nil
    all_goals exact ol
  · cases h
    case stopReq | connectFail =>
      exact (os y hy).mono rfl rfl (fun _ h => h) (fun _ h => h) (Nat.le_refl _) (fun _ h => ⟨h, fun h1 h2 => ⟨h1, h2⟩⟩)
    case finishCollect => cases hy
    case workerFinal hs _ _ => exact absurd (hs ▸ hy :) nofun
    case connectOk =>
      cases hy
      have e := oun s.nextConn (Nat.le_refl _)
      exact ⟨by simp [e], by simp [e], by simp [e], nofun, Nat.lt_succ_self _⟩
    case takeLeft x c rest hs hl _ _ _ =>
      -- the oldest leftover is above everything sent, below the other leftovers and — having been taken — below the queue
      cases hy
      have below := (os x hs).below
      rw [hl] at ol below
      have hct : c ∈ s.taken := mem_taken_of_inflight hi (by simp [inflight, hl])
      exact { os x hs with
        below := fun t ht => ⟨fun l hl' => (below t ht).1 l (List.mem_cons_of_mem _ hl'), (below t ht).2⟩
        hand := fun _ _ d hd t ht => by cases hd; exact (below t ht).1 c List.mem_cons_self
        lastB := fun d hd => by cases hd; exact ⟨(List.pairwise_cons.mp ol).1, otq c hct⟩ }
    case takeInput x c rest hs hq hn _ _ =>
      -- after the recovery stage no leftover waits; the head of the queue is above everything sent and below the rest
      cases hy
      have below := (os x hs).below
      rw [hq] at oq below
      have hleft : s.left = [] := (hi.sess x hs).2 (.inl hn)
      exact { os x hs with
        below := fun t ht => ⟨(below t ht).1, fun q hq' => (below t ht).2 q (List.mem_cons_of_mem _ hq')⟩
        hand := fun _ _ d hd t ht => by cases hd; exact (below t ht).2 c List.mem_cons_self
        lastB := fun d hd => by cases hd; exact ⟨by simp [hleft], (List.pairwise_cons.mp oq).1⟩ }
    case sendOk x c hs hc _ _ _ =>
      cases hy
      have so := os x hs
      have e : sentOn x.conn (s.hist ++ [Ev.sendOk x.conn c]) = sentOn x.conn s.hist ++ [c] := by simp [sentOn_append, sentOn]
      exact { so with tx := hall _, below := e ▸ forall_mem_snoc so.below (so.lastB c hc), hand := nofun }
    case sendErr x c hs hc _ _ =>
      cases hy
      have so := os x hs
      have e : sentOn x.conn (s.hist ++ [Ev.sendErr x.conn c]) = sentOn x.conn s.hist ++ [c] := by simp [sentOn_append, sentOn]
      have hsub : ∀ l ∈ (if x.normal = true then s.left else []), l ∈ s.left := fun l hl => by split at hl; exact hl; cases hl
      have lastB' : ∀ d, x.lastC = some d → (∀ l ∈ (if x.normal = true then s.left else []), d < l) ∧ ∀ q ∈ s.queue, d < q :=
        fun d hd => ⟨fun l hl => (so.lastB d hd).1 l (hsub l hl), (so.lastB d hd).2⟩
      exact { so with
        tx := hall _
        below := e ▸ forall_mem_snoc (fun t ht => ⟨fun l hl => (so.below t ht).1 l (hsub l hl), (so.below t ht).2⟩) (lastB' c hc)
        hand := nofun
        lastB := lastB' }
    case collect x hs _ _ =>
      cases hy
      exact (os x hs).mono rfl rfl (fun l hl => by split at hl; exact hl; cases hl) (fun _ h => h) (Nat.le_refl _)
        (fun _ h => ⟨h, fun _ h2 => nomatch h2⟩)
    case pushAck x _ hs _ _ _ _ =>
      cases hy
      exact (os x hs).mono rfl rfl (fun _ h => h) (fun _ h => h) (Nat.le_refl _) nofun
    case recoveryDone x hs _ _ _ _ | escalate x _ hs _ | ackRecv x _ _ hs _ _ _ | ackEnd x hs _ _ _ | ackOk x _ _ _ hs _ _ _ |
        ackUnknown x _ _ hs _ _ _ | ackErr x _ hs _ =>
      -- none of these sends: for the ACK rules the log grows by events `sentOn` skips
      cases hy
      exact (os x hs).mono rfl (by simp [sentOn_append, sentOn]) (fun _ h => h) (fun _ h => h) (Nat.le_refl _)
        (fun _ h => ⟨h, fun h1 h2 => ⟨h1, h2⟩⟩)

theorem init_oinv (q : List Nat) (h : q.Pairwise (· < ·)) : OInv (init q) :=
  ⟨by simpa [init] using h, by simp [init], by simp [init], by intro x hx; simp [init] at hx,
   by intro k; simp [init, sentOn], by intro k _; simp [init, sentOn]⟩

theorem left_queue_sorted (hi : Inv s) (ho : OInv s) : (s.left ++ s.queue).Pairwise (· < ·) :=
  List.pairwise_append.mpr ⟨ho.l, ho.q, fun a ha b hb =>
    ho.tq a (mem_taken_of_inflight hi (List.mem_append_left _ ha)) b hb⟩

def FInv (s : St) : Prop := s.finished = true → s.sess = none ∧ s.left = []

theorem step_finv (h : Step s a s') (hi : FInv s) : FInv s' := by
  -- every rule either needs a session, which a finished client does not have, or has `finished = false` among its guards;
  -- only `workerFinal` sets `finished`, with no session and `left := []`
  cases h <;> simp_all [FInv]

/-- what a well-behaved upstream lets the client do with one leftover: take it, transmit it, queue it for
acknowledgement, read its ACK -/
def deliverOne : List Act := [.takeLeft, .sendOk, .pushAck, .ackRecv, .ackOk none]

/-- the session a successful connect starts: nothing in hand, queued or pending -/
def newSess (conn : Nat) : Sess := { conn := conn }

/-- the state after `deliverOne` on connection `conn`, with `c` the first leftover and `rest` the others -/
def delivered (s : St) (conn c : Nat) (rest : List Nat) : St :=
  { s with left := rest, confirmed := s.confirmed ++ [c],
           hist := s.hist ++ [.sendOk conn c] ++ [.ack conn none, .consumed c] }

theorem deliver_one (s : St) (conn c : Nat) (rest : List Nat) (hs : s.sess = some (newSess conn))
    (hl : s.left = c :: rest) : run s deliverOne = some (delivered s conn c rest) := by
  obtain ⟨queue, left, sess, confirmed, handed, taken, stop, finished, nextConn, hist⟩ := s
  simp only at hs hl
  subst hs hl
  simp [deliverOne, delivered, run, step, newSess, ackCap]

theorem deliver_loop : ∀ (L : List Nat) (s : St) (conn : Nat), s.sess = some (newSess conn) → s.left = L →
    ∃ s', run s (L.flatMap (fun _ => deliverOne)) = some s' ∧ s'.sess = some (newSess conn) ∧ s'.left = [] ∧
      s'.confirmed = s.confirmed ++ L ∧ Untouched s s'
  | [], s, conn, hs, hl => ⟨s, rfl, hs, hl, by simp, .refl s⟩
  | c :: rest, s, conn, hs, hl => by
    obtain ⟨s', hrun, hsess, hleft, hconf, hu⟩ := deliver_loop rest (delivered s conn c rest) conn hs rfl
    exact ⟨s', run_trans (deliver_one s conn c rest hs hl) hrun, hsess, hleft, by rw [hconf]; simp [delivered],
      hu.queue, hu.taken, hu.handed, hu.finished, hu.stop⟩

theorem close_session (s : St) (x : Sess) (hs : s.sess = some x) (hok : SessOK s x) :
    ∃ s', run s (endSession x) = some s' ∧ s'.sess = none ∧ (∀ c, c ∈ s'.left ↔ c ∈ inflight s) ∧
      s'.confirmed = s.confirmed ∧ Untouched s s' := by
  obtain ⟨s', hrun, hsess, hleft, hconf, hu⟩ := endSession_run s x hs
  refine ⟨s', hrun, hsess, fun c => ?_, hconf, hu⟩
  -- what `finishCollect` merges in first is, in each case, the leftovers and what was collected before
  have hprev : x.collecting.getD (if x.normal then [] else s.left) = s.left ++ x.collecting.getD [] := by
    cases hc : x.collecting with
    | some p => simp [hok.2 (.inr (by simp [hc]))]
    | none =>
      cases hn : x.normal with
      | false => simp
      | true => simp [hok.2 (.inl hn)]
  rw [hleft, newLeft_mem, hprev, inflight_of_sess hs]
  simp only [List.mem_append, or_comm, or_left_comm, or_assoc]

theorem after_connect (t : St) (hn : t.sess = none) (hf : t.finished = false) :
    ∃ s', run t ([Act.connectOk] ++ (t.left.flatMap (fun _ => deliverOne) ++ [Act.recoveryDone])) = some s' ∧
      s'.confirmed = t.confirmed ++ t.left ∧ inflight s' = [] ∧ Untouched t s' := by
  have hcon : Step t .connectOk { t with sess := some (newSess t.nextConn), nextConn := t.nextConn + 1 } := .connectOk hn hf
  obtain ⟨s2, hdel, hsess, hleft, hconf, hu⟩ :=
    deliver_loop t.left { t with sess := some (newSess t.nextConn), nextConn := t.nextConn + 1 } t.nextConn rfl rfl
  have hrec : Step s2 .recoveryDone { s2 with sess := some { newSess t.nextConn with normal := true } } :=
    .recoveryDone hsess hleft rfl rfl rfl
  have hrun := run_step hcon (run_trans hdel (run_one hrec))
  exact ⟨_, hrun, hconf, by simp [inflight, hleft, newSess], hu.queue, hu.taken, hu.handed, hu.finished, hu.stop⟩

end C02
