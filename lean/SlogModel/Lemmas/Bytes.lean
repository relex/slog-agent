import SlogModel.Lemmas.GoM

/-!
  Byte strings cut into parts.  The normal form of the byte-level proofs is a decomposition `s = a ++ b ++ c` with
  positions given as lengths: a slice, a prefix, a suffix or a single byte is then read off by the `…_of_append`
  lemmas, with no `take`/`drop` arithmetic.  `indexByte` is `List.findIdx?`, stated in position form and in
  decomposition form; a scan (`takeWhile`/`dropWhile`) stops at the first byte that fails the test; the bytes
  `48 + n`, `n ≤ 9`, pass `isDigit`.
-/

namespace List
variable {α : Type}

theorem take_of_append {s a c : List α} {n : Nat} (hs : s = a ++ c) (hn : n = a.length) : s.take n = a := by
  subst hs hn; exact take_left' rfl

theorem drop_of_append {s a c : List α} {n : Nat} (hs : s = a ++ c) (hn : n = a.length) : s.drop n = c := by
  subst hs hn; exact drop_left' rfl

theorem getElem?_of_append {s a c : List α} {x : α} {n : Nat} (hs : s = a ++ x :: c) (hn : n = a.length) :
    s[n]? = some x := by
  subst hs hn; rw [getElem?_append_right (Nat.le_refl _), Nat.sub_self]; rfl

theorem mid_of_append {s a b c : List α} {lo hi : Nat} (hs : s = a ++ b ++ c)
    (hlo : lo = a.length) (hhi : hi = a.length + b.length) : (s.drop lo).take (hi - lo) = b := by
  subst hs hlo hhi
  rw [append_assoc, drop_left' rfl, Nat.add_sub_cancel_left, take_left' rfl]

theorem takeWhile_append_stop (p : α → Bool) {l1 l2 : List α} (h1 : ∀ x ∈ l1, p x = true)
    (h2 : ∀ x, l2.head? = some x → p x = false) : (l1 ++ l2).takeWhile p = l1 := by
  rw [takeWhile_append_of_pos h1]
  cases l2 with
  | nil => rw [takeWhile_nil, append_nil]
  | cons y r => rw [takeWhile_cons_of_neg (by rw [h2 y rfl]; exact Bool.false_ne_true), append_nil]

theorem dropWhile_append_stop (p : α → Bool) {l1 l2 : List α} (h1 : ∀ x ∈ l1, p x = true)
    (h2 : ∀ x, l2.head? = some x → p x = false) : (l1 ++ l2).dropWhile p = l2 := by
  rw [dropWhile_append_of_pos h1]
  cases l2 with
  | nil => rfl
  | cons y r => exact dropWhile_cons_of_neg (by rw [h2 y rfl]; exact Bool.false_ne_true)

theorem drop_beq_iff_suffix [BEq α] [LawfulBEq α] {s p : List α} :
    (decide (p.length ≤ s.length) && s.drop (s.length - p.length) == p) = true ↔ p <:+ s := by
  rw [suffix_iff_eq_drop]
  simp only [Bool.and_eq_true, decide_eq_true_eq, beq_iff_eq]
  exact ⟨fun h => h.2.symm, fun h => ⟨by rw [h, length_drop]; omega, h.symm⟩⟩

theorem length_takeWhile_le (p : α → Bool) (l : List α) : (l.takeWhile p).length ≤ l.length :=
  (takeWhile_sublist p).length_le

end List

theorem isDigit_digit (n : Nat) (h : n ≤ 9) : isDigit (48 + n) = true := by
  unfold isDigit; simp only [Bool.and_eq_true, decide_eq_true_eq]; omega

theorem isDigit_digits (f : List Nat) (hf : ∀ x ∈ f, x ≤ 9) : ∀ b ∈ f.map (48 + ·), isDigit b = true := by
  intro b hb
  obtain ⟨x, hx, rfl⟩ := List.mem_map.mp hb
  exact isDigit_digit x (hf x hx)

theorem slice_of_append {s a b c : Bytes} {lo hi : Nat} (hs : s = a ++ b ++ c)
    (hlo : lo = a.length) (hhi : hi = a.length + b.length) : slice s lo hi = .ok b := by
  rw [slice_of_le (by omega) (by subst hs; simp only [List.length_append]; omega), List.mid_of_append hs hlo hhi]

theorem indexByte_go_eq (b : Nat) (s : Bytes) (i : Nat) :
    indexByte.go b s i = (s.findIdx? (· == b)).map (· + i) := by
  induction s generalizing i with
  | nil => rfl
  | cons x xs ih =>
    rw [indexByte.go, List.findIdx?_cons, ih]
    by_cases hx : x = b
    · rw [if_pos hx, if_pos (beq_iff_eq.mpr hx)]; exact congrArg some (Nat.zero_add i).symm
    · rw [if_neg hx, if_neg (mt beq_iff_eq.mp hx), Option.map_map]
      congr 1; funext k; exact (Nat.add_right_comm k 1 i).symm

theorem indexByte_eq_findIdx? (s : Bytes) (b : Nat) : indexByte s b = s.findIdx? (· == b) := by
  rw [indexByte, indexByte_go_eq]
  cases s.findIdx? (· == b) <;> rfl

theorem indexByte_eq_none_iff {s : Bytes} {b : Nat} : indexByte s b = none ↔ b ∉ s := by
  rw [indexByte_eq_findIdx?, List.findIdx?_eq_none_iff]
  exact ⟨fun h m => absurd (h b m) (by simp only [beq_self_eq_true, Bool.true_eq_false, not_false_eq_true]),
    fun h x m => beq_eq_false_iff_ne.mpr fun e => h (e ▸ m)⟩

theorem indexByte_eq_some_iff {s : Bytes} {b k : Nat} :
    indexByte s b = some k ↔ s[k]? = some b ∧ ∀ j, j < k → s[j]? ≠ some b := by
  rw [indexByte_eq_findIdx?, List.findIdx?_eq_some_iff_getElem]
  constructor
  · rintro ⟨h, h1, h2⟩
    refine ⟨by rw [List.getElem?_eq_getElem h, beq_iff_eq.mp h1], fun j hj e => h2 j hj ?_⟩
    rw [List.getElem?_eq_getElem (Nat.lt_trans hj h)] at e
    exact beq_iff_eq.mpr (Option.some.inj e)
  · rintro ⟨h1, h2⟩
    obtain ⟨h, e⟩ := List.getElem?_eq_some_iff.mp h1
    refine ⟨h, beq_iff_eq.mpr e, fun j hj e' => h2 j hj ?_⟩
    rw [List.getElem?_eq_getElem (Nat.lt_trans hj h), beq_iff_eq.mp e']

theorem indexByte_append_cons {l post : Bytes} {b : Nat} (h : b ∉ l) : indexByte (l ++ b :: post) b = some l.length := by
  refine indexByte_eq_some_iff.mpr ⟨List.getElem?_of_append rfl rfl, fun j hj e => h ?_⟩
  rw [List.getElem?_append_left hj] at e
  exact List.mem_of_getElem? e

theorem indexByte_some_split {s : Bytes} {b k : Nat} (h : indexByte s b = some k) :
    ∃ l post, s = l ++ b :: post ∧ b ∉ l ∧ k = l.length := by
  obtain ⟨h1, h2⟩ := indexByte_eq_some_iff.mp h
  obtain ⟨hk, e⟩ := List.getElem?_eq_some_iff.mp h1
  refine ⟨s.take k, s.drop (k + 1), ?_, fun m => ?_, ?_⟩
  · rw [← e, List.getElem_cons_drop, List.take_append_drop]
  · obtain ⟨j, hj⟩ := List.mem_iff_getElem?.mp m
    have hjk : j < k := by
      have := (List.getElem?_eq_some_iff.mp hj).1
      rw [List.length_take] at this; omega
    rw [List.getElem?_take_of_lt hjk] at hj
    exact h2 j hjk hj
  · rw [List.length_take, Nat.min_eq_left (Nat.le_of_lt hk)]
