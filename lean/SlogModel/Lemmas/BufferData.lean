import SlogModel.Lemmas.Buffer

/-!
  Data invariant of the buffer model: files and loaded chunks of accepted ids hold the accepted bytes
  (helper lemmas for `Props/C03.lean`).
-/

open Buffer
namespace C03

/-- every file, and every loaded chunk anywhere in the buffer or at the consumer, of an accepted id holds the accepted bytes -/
structure DInv (s : St) : Prop where
  q : ∀ e ∈ s.inQ, ∀ d, e.data = some d → (e.id, d) ∈ s.accepted
  w : ∀ e ∈ s.outW, ∃ d, e.data = some d ∧ (e.id, d) ∈ s.accepted
  h : ∀ e ∈ s.held, ∀ d, e.data = some d → (e.id, d) ∈ s.accepted
  hand : ∀ q d, s.hand = some (q, d) → (q.id, d) ∈ s.accepted ∧ ∀ d', q.data = some d' → (q.id, d') ∈ s.accepted
  disk : ∀ p ∈ s.disk, p.1 ∈ accIds s → p ∈ s.accepted
  tk : ∀ p ∈ s.taken, p ∈ s.accepted

theorem dinv_disk (s : St) (hd : DInv s) (disk' : List (Nat × Bytes)) (c' : Counters)
    (hsub : ∀ p ∈ disk', p ∈ s.disk ∨ p ∈ s.accepted) : DInv { s with disk := disk', c := c' } := by
  refine { hd with disk := ?_ }
  intro p hp hacc
  rcases hsub p hp with h | h
  · exact hd.disk p h hacc
  · exact h

theorem FilesFrom.accepted {s : St} {disk : List (Nat × Bytes)} {es : List Entry} (hf : FilesFrom disk s.disk es)
    (hes : ∀ e ∈ es, ∀ d, e.data = some d → (e.id, d) ∈ s.accepted) : ∀ p ∈ disk, p ∈ s.disk ∨ p ∈ s.accepted := fun p hp =>
  (hf p hp).imp (fun h => h) fun ⟨e, he, d, hd, hp⟩ => hp ▸ hes e he d hd

theorem queued_in_acc {s : St} (hc : Conserved s) {e : Entry} (he : e ∈ s.inQ) : e.id ∈ accIds s := by
  have h1 := hc e.id
  simp only [places, List.count_append] at h1
  have : 0 < (s.inQ.map (·.id)).count e.id := List.count_pos_iff.mpr (List.mem_map_of_mem he)
  exact List.count_pos_iff.mp (by omega)

theorem dinv_accept {s : St} (hd : DInv s) {id : Nat} {data : Bytes} (hfresh : id ∉ s.disk.map (·.1))
    {disk : List (Nat × Bytes)} (hf : FilesFrom disk s.disk [{ id := id, data := some data, saved := false }]) (c : Counters) :
    DInv { s with accepted := s.accepted ++ [(id, data)], disk := disk, c := c } := by
  have hsub : ∀ p ∈ disk, p ∈ s.disk ∨ p = (id, data) := fun p hp =>
    (hf p hp).imp (fun h => h) fun ⟨e, he, d, hd, hp⟩ => by
      simp at he
      subst he
      simp at hd
      subst hd
      exact hp
  have hl {p : Nat × Bytes} (h : p ∈ s.accepted) : p ∈ s.accepted ++ [(id, data)] := List.mem_append_left _ h
  refine { q := fun e he d hd' => hl (hd.q e he d hd'), w := fun e he => (hd.w e he).imp fun _ h => ⟨h.1, hl h.2⟩,
           h := fun e he d hd' => hl (hd.h e he d hd'), tk := fun p hp => hl (hd.tk p hp),
           hand := fun q d hq => ⟨hl (hd.hand q d hq).1, fun d' hd' => hl ((hd.hand q d hq).2 d' hd')⟩,
           disk := fun p hp hacc => ?_ }
  rcases hsub p hp with h | h
  · simp only [accIds, List.map_append, List.map_cons, List.map_nil, List.mem_append, List.mem_singleton] at hacc
    rcases hacc with h1 | h1
    · exact hl (hd.disk p h h1)
    · exfalso; apply hfresh; rw [← h1]; exact List.mem_map.mpr ⟨p, h, rfl⟩
  · rw [h]; simp

theorem mem_handEntry {h : Option (Entry × Bytes)} {e : Entry} (he : e ∈ handEntry h) : ∃ d, h = some (e, d) := by
  fun_cases handEntry h
  · exact ⟨_, by rw [List.mem_singleton.mp he]⟩
  · cases he

theorem shape_dinv {s s' : St} {a : IAct} (h : Shape s a s') (hok : okI s a) (hc : Conserved s) (hd : DInv s) : DInv s' := by
  -- only `load` reads the disk; every other case restricts or extends lists whose members were covered
  cases h with
  | @push q d hh =>
    exact { hd with w := forall_mem_snoc hd.w ⟨d, rfl, (hd.hand q d hh).1⟩, hand := fun _ _ hq => (nomatch hq) }
  | @load e rest d c hh hq hsrc =>
    obtain ⟨he, hrest⟩ := List.forall_mem_cons.mp (hq ▸ hd.q)
    refine { hd with q := hrest, hand := fun q' d' h' => ?_ }
    cases h'
    -- the bytes are the entry's own, or read from the file of a queued, hence accepted, id
    exact ⟨hsrc.elim (he d) fun h1 => hd.disk (e.id, d) (Assoc.mem_of_get h1) (queued_in_acc hc (by simp [hq])), he⟩
  | @qdrop e rest disk c hh hq hf =>
    have := dinv_disk s hd disk c (hf.accepted (by simp))
    exact { this with q := (List.forall_mem_cons.mp (hq ▸ hd.q)).2, hand := fun q' d' h' => (nomatch hh ▸ h') }
  | @enq id data e disk c _ hid hdata _ hf =>
    have hbase := dinv_accept hd hok.2 hf c
    refine { hbase with q := forall_mem_snoc hbase.q fun d' hd' => ?_ }
    rcases hdata with h2 | ⟨h2, _⟩
    · rw [h2] at hd'; cases hd'
    · rw [h2] at hd'; cases hd'; rw [hid]; simp
  | @adrop id data disk c _ hf =>
    have hbase := dinv_accept hd hok.2 hf c
    exact { hbase with }
  | @take e rest _ ho =>
    obtain ⟨⟨d, hd1, hd2⟩, hrest⟩ := List.forall_mem_cons.mp (ho ▸ hd.w)
    exact { hd with w := hrest, h := forall_mem_snoc hd.h fun d' hd' => Option.some.inj (hd1.symm.trans hd') ▸ hd2,
                    tk := forall_mem_snoc hd.tk (hd1 ▸ hd2) }
  | @confirmed id e disk c _ hf =>
    have := dinv_disk s hd disk c (hf.accepted (by simp))
    exact { this with h := fun e' he' => hd.h e' (List.mem_filter.mp he').1 }
  | @keptBack id e disk c he hf =>
    have := dinv_disk s hd disk c (hf.accepted (by simpa using hd.h e (List.mem_of_find?_eq_some he)))
    exact { this with h := fun e' he' => hd.h e' (List.mem_filter.mp he').1 }
  | dropBack =>
    exact { hd with h := fun e' he' => hd.h e' (List.mem_filter.mp he').1 }
  | @destroy disk c dx kx _ _ hf =>
    have hw : ∀ e ∈ s.outW, ∀ d, e.data = some d → (e.id, d) ∈ s.accepted := fun e he d hd' =>
      let ⟨d0, h2, h3⟩ := hd.w e he
      Option.some.inj (h2.symm.trans hd') ▸ h3
    have hh : ∀ e ∈ handEntry s.hand, ∀ d, e.data = some d → (e.id, d) ∈ s.accepted := fun e he =>
      let ⟨dq, hq⟩ := mem_handEntry he
      (hd.hand e dq hq).2
    have := dinv_disk s hd disk c (hf.accepted (List.forall_mem_append.mpr ⟨List.forall_mem_append.mpr ⟨hd.q, hh⟩, hw⟩))
    exact { this with q := fun _ h => (nomatch h), w := fun _ h => (nomatch h), hand := fun _ _ h => (nomatch h) }
  | finish => exact hd
  | extZero | extRemove => exact hok.elim

theorem scanned_sub (cfg : Cfg) (disk : List (Nat × Bytes)) : ∀ p ∈ scanned cfg disk, p ∈ disk := by
  intro p hp
  unfold scanned at hp
  split at hp
  · exact (List.mergeSort_perm disk _).mem_iff.mp hp
  · cases hp

theorem recoverRaw_dinv (cfg : Cfg) (disk : List (Nat × Bytes)) (hd : (disk.map (·.1)).Nodup) : DInv (recoverRaw cfg disk) := by
  rw [recoverRaw_eq]
  refine ⟨fun e he d hd' => ?_, fun _ h => (nomatch h), fun _ h => (nomatch h), fun _ _ h => (nomatch h), fun p hp hacc => ?_,
    fun _ h => (nomatch h)⟩
  · obtain ⟨f, _, rfl⟩ := List.mem_map.mp he
    cases hd'
  · -- the recovered file with the same name is a file of the directory too; names are unique
    obtain ⟨p', hp', hid⟩ := List.mem_map.mp hacc
    exact Assoc.eq_of_mem hd (scanned_sub cfg disk p' (List.mem_of_mem_take hp')) hp hid ▸ hp'

end C03
