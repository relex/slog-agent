import SlogModel.Lemmas.Buffer

/-!
  Counter invariant of the buffer model (helper lemmas for `Props/C19.lean`): what the counters owe each other
  and the ghost lists is one quantity, `acct`, that no action of any schedule changes.
-/

open Buffer C03
namespace C19

/-- the balance of `pending_chunks`; `dropped` and `consumed` against the ghost lists they count -/
def acct (s : St) : Int × Int × Int := (bal s.c, s.c.dropped - s.droppedG.length, s.c.consumed - s.confirmedG.length)

theorem shape_acct {s s' : St} {a : IAct} (h : Shape s a s') : acct s' = acct s := by
  cases h with
  | push | take | finish | extZero | extRemove => rfl
  | load _ _ _ hb | enq _ _ _ _ _ hb | keptBack _ _ hb =>
    simp [acct, hb.bal, hb.dropped, hb.consumed]
  | qdrop _ _ _ hb | adrop _ _ hb | dropBack _ hb | destroy _ _ _ hb =>
    simp [acct, hb.bal, hb.dropped, hb.consumed]; omega
  | confirmed _ _ hc =>
    simp [acct, hc.bal, hc.dropped, hc.consumed]; omega

theorem acct_every_schedule {cfg : Cfg} {disk : List (Nat × Bytes)} {as : List IAct} {s : St}
    (h : runI (recoverRaw cfg disk) as = some s) : acct s = (0, 0, 0) := by
  refine runI_inv_shape (P := fun s => acct s = (0, 0, 0)) (fun hs hp => (shape_acct hs).trans hp) h ?_
  rw [recoverRaw_eq]
  simp [acct, bal, recCounters]

theorem acct_run {cfg : Cfg} {disk : List (Nat × Bytes)} {ops : List Op} {s : St} (h : run (recover cfg disk) ops = some s) :
    bal s.c = 0 ∧ (s.c.dropped : Int) = s.droppedG.length ∧ (s.c.consumed : Int) = s.confirmedG.length := by
  obtain ⟨as, has, _⟩ := recover_schedule h
  have := acct_every_schedule has
  simp only [acct, Prod.mk.injEq] at this
  omega

end C19
