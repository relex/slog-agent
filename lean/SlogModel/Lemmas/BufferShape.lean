import SlogModel.Lemmas.BufferSched
import SlogModel.Lemmas.Assoc

/-!
  What one action of the interleaved buffer system does (`Shape`): where the entries go, where files and loaded
  bytes come from, what happens to the counters and to the bytes in the directory.  It is read off the model in one
  walk (`stepI_shape`), from one lemma per primitive (`unload_cases`, `removeChunk_cases`); every invariant
  of the buffer is then a case analysis over `Shape`.
-/

open Buffer
namespace C03

theorem unload_spec (s : St) (e : Entry) :
    unload s e = (s, e, e.saved) ∨
    ∃ d, e.saved = false ∧ e.data = some d ∧ s.c.gBytes + d.length ≤ s.cfg.maxBytes ∧
      unload s e = ({ s with disk := remove s.disk e.id ++ [(e.id, d)],
                             c := { s.c with gChunks := s.c.gChunks + 1, gBytes := s.c.gBytes + d.length } },
                    { e with data := none, saved := true }, true) := by
  fun_cases unload s e
  -- only the last branch writes; the other four return what they were given
  case case5 hs d hd _ hq => exact .inr ⟨d, Bool.eq_false_iff.mpr hs, hd, by omega, rfl⟩
  all_goals exact .inl (by simp [*])

theorem removeChunk_spec (s : St) (e : Entry) :
    removeChunk s e = s ∨ removeChunk s e = { s with c := { s.c with ioErr := s.c.ioErr + 1 } } ∨
    ∃ d', lookup s.disk e.id = some d' ∧
      removeChunk s e = { s with disk := remove s.disk e.id,
                                 c := { s.c with gChunks := s.c.gChunks - 1, gBytes := s.c.gBytes - dataLen e } } := by
  fun_cases removeChunk s e
  case case1 | case2 => exact .inl rfl
  case case3 => exact .inr (.inl rfl)
  case case4 d' hl => exact .inr (.inr ⟨d', hl, rfl⟩)

/-- an upper bound on the directory is enough: `DInv` asks only that files hold accepted bytes, so a file that goes needs no account -/
def FilesFrom (disk' disk : List (Nat × Bytes)) (es : List Entry) : Prop :=
  ∀ p ∈ disk', p ∈ disk ∨ ∃ e ∈ es, ∃ d, e.data = some d ∧ p = (e.id, d)

theorem FilesFrom.refl (disk : List (Nat × Bytes)) (es : List Entry) : FilesFrom disk disk es := fun _ hp => Or.inl hp

theorem FilesFrom.mono {disk' disk : List (Nat × Bytes)} {es es' : List Entry} (h : FilesFrom disk' disk es)
    (hs : ∀ e ∈ es, e ∈ es') : FilesFrom disk' disk es' := fun p hp =>
  (h p hp).imp (fun h => h) fun ⟨e, he, d, hd⟩ => ⟨e, hs e he, d, hd⟩

theorem FilesFrom.trans {d3 d2 d1 : List (Nat × Bytes)} {es : List Entry} (h : FilesFrom d3 d2 es)
    (h' : FilesFrom d2 d1 es) : FilesFrom d3 d1 es := fun p hp => (h p hp).elim (h' p) Or.inr

def diskBytes (disk : List (Nat × Bytes)) : Nat := (disk.map (·.2.length)).sum

theorem diskBytes_mem {disk : List (Nat × Bytes)} {p : Nat × Bytes} (h : p ∈ disk) : p.2.length ≤ diskBytes disk := by
  induction disk with
  | nil => cases h
  | cons q r ih =>
    rcases List.mem_cons.mp h with rfl | h <;> simp only [diskBytes, List.map_cons, List.sum_cons] at ih ⊢
    · omega
    · have := ih h; omega

theorem diskBytes_remove (disk : List (Nat × Bytes)) (id : Nat) :
    diskBytes (remove disk id) + diskBytes (disk.filter (fun p => p.1 = id)) = diskBytes disk := by
  induction disk with
  | nil => rfl
  | cons p r ih => by_cases h : p.1 = id <;> simp [remove, diskBytes, h] at ih ⊢ <;> omega

theorem diskBytes_remove_mem {disk : List (Nat × Bytes)} {id : Nat} {d : Bytes} (h : (id, d) ∈ disk) :
    diskBytes (remove disk id) + d.length ≤ diskBytes disk := by
  have := diskBytes_remove disk id
  have hm : (id, d) ∈ disk.filter (fun p => p.1 = id) := List.mem_filter.mpr ⟨h, by simp⟩
  have : d.length ≤ _ := diskBytes_mem hm
  omega

/-- `pending_chunks` against the five counters it is the balance of -/
def bal (c : Counters) : Int := c.pending - c.inT - c.inP + c.consumed + c.leftover + c.dropped

/-- `k` more chunks counted dropped, `j` more consumed -/
structure Counts (c c' : Counters) (k j : Nat) : Prop where
  bal : bal c' = bal c
  dropped : c'.dropped = c.dropped + k
  consumed : c'.consumed = c.consumed + j

/-- Directory and `persistent_chunk_bytes` as the space invariant sees them: what is added to the directory is added
to the gauge, and the gauge grows only within the quota `m`. -/
structure Space (m : Nat) (d : List (Nat × Bytes)) (c : Counters) (d' : List (Nat × Bytes)) (c' : Counters) : Prop where
  bytes : (diskBytes d' : Int) + c.gBytes ≤ diskBytes d + c'.gBytes
  quota : c'.gBytes ≤ max c.gBytes m

theorem Space.refl (m : Nat) (d : List (Nat × Bytes)) (c : Counters) : Space m d c d c := ⟨Int.le_refl _, by omega⟩

structure Books (m : Nat) (d : List (Nat × Bytes)) (c : Counters) (d' : List (Nat × Bytes)) (c' : Counters) (k : Nat) : Prop
    extends Counts c c' k 0, Space m d c d' c'

theorem Books.refl (m : Nat) (d : List (Nat × Bytes)) (c : Counters) : Books m d c d c 0 := ⟨⟨rfl, rfl, rfl⟩, .refl m d c⟩

theorem Books.trans {m : Nat} {d d1 d2 : List (Nat × Bytes)} {c c1 c2 : Counters} {k1 k2 : Nat}
    (h1 : Books m d c d1 c1 k1) (h2 : Books m d1 c1 d2 c2 k2) : Books m d c d2 c2 (k1 + k2) := by
  have := h1.bytes
  have := h2.bytes
  have := h1.quota
  have := h2.quota
  exact ⟨⟨h2.bal.trans h1.bal, by rw [h2.dropped, h1.dropped, Nat.add_assoc], by rw [h2.consumed, h1.consumed]⟩,
    by omega, by omega⟩

/-- In an action at most one step counts a drop.  These two forms are what the rules of `Shape` are built with: the `0 + k`
or `k + 0` of `Books.trans` does not unify with the `k` of a goal. -/
theorem Books.before {m : Nat} {d d1 d2 : List (Nat × Bytes)} {c c1 c2 : Counters} {k : Nat}
    (h1 : Books m d c d1 c1 0) (h2 : Books m d1 c1 d2 c2 k) : Books m d c d2 c2 k := by
  simpa using h1.trans h2

theorem Books.after {m : Nat} {d d1 d2 : List (Nat × Bytes)} {c c1 c2 : Counters} {k : Nat}
    (h1 : Books m d c d1 c1 k) (h2 : Books m d1 c1 d2 c2 0) : Books m d c d2 c2 k := h1.trans h2

theorem Books.of_counts {m : Nat} {d : List (Nat × Bytes)} {c c' : Counters} {k : Nat} (h : Counts c c' k 0)
    (hg : c'.gBytes = c.gBytes) : Books m d c d c' k :=
  ⟨h, by omega, by omega⟩

theorem unload_cases (s : St) (e : Entry) :
    (e.saved = false ∧ unload s e = (s, e, false)) ∨
    ∃ disk c e', unload s e = ({ s with disk := disk, c := c }, e', true) ∧ FilesFrom disk s.disk [e] ∧
      Books s.cfg.maxBytes s.disk s.c disk c 0 ∧ e'.id = e.id ∧ (e.saved = false → e'.data = none) := by
  rcases unload_spec s e with h | ⟨d, hs, hd, hq, h⟩
  · cases hs : e.saved
    · exact .inl ⟨rfl, hs ▸ h⟩
    · exact .inr ⟨s.disk, s.c, e, hs ▸ h, .refl _ _, .refl _ _ _, rfl, fun h => nomatch h⟩
  · refine .inr ⟨_, _, _, h, fun p hp => (Assoc.mem_put hp).imp (fun h => h) fun h => ⟨e, by simp, d, hd, h⟩,
      ⟨⟨rfl, rfl, rfl⟩, ?_, by simp; omega⟩, rfl, fun _ => rfl⟩
    have := diskBytes_remove s.disk e.id
    simp [diskBytes] at this ⊢; omega

theorem removeChunk_cases (s : St) (e : Entry) : ∃ disk c, removeChunk s e = { s with disk := disk, c := c } ∧
    FilesFrom disk s.disk [] ∧ Counts s.c c 0 0 ∧
    ((∀ d', lookup s.disk e.id = some d' → dataLen e ≤ d'.length) → Space s.cfg.maxBytes s.disk s.c disk c) := by
  rcases removeChunk_spec s e with h | h | ⟨d', hl, h⟩ <;> refine ⟨_, _, h, ?_, ⟨rfl, rfl, rfl⟩, fun hd => ?_⟩
  · exact .refl _ _
  · exact .refl _ _ _
  · exact .refl _ _
  · exact ⟨by simp, by simp; omega⟩
  · exact fun _ hp => .inl (Assoc.mem_del hp)
  · have h1 := hd d' hl
    have h2 := diskBytes_remove_mem (Assoc.mem_of_get hl)
    exact ⟨by simp; omega, by simp; omega⟩

theorem onDropped_books (m : Nat) (s : St) (e : Entry) (he : e.saved = true → e.data = none) :
    Books m s.disk s.c s.disk (onDropped s e).c 1 := by
  unfold onDropped
  split
  · rename_i hs
    exact .of_counts ⟨by simp [bal]; omega, rfl, rfl⟩ (by simp [dataLen, he hs])
  · exact .of_counts ⟨by simp [bal]; omega, rfl, rfl⟩ rfl

/-- What an action does: where the entries go, where files and loaded bytes come from, what happens to the books.
`disk` and `c` are whatever the action made them.  `enq`: a chunk is queued with its data only while the window is
below half its capacity (the spill rule of `Accept`), otherwise unloaded.  `confirmed`: the space accounting
survives only if the file holds at least the bytes the gauge is reduced by, which the data invariant provides. -/
inductive Shape (s : St) : IAct → St → Prop
  | push {q d} (hh : s.hand = some (q, d)) (hlt : s.outW.length < s.cfg.memCap) :
      Shape s .feed { s with hand := none, outW := s.outW ++ [{ q with data := some d }] }
  | load {e rest d c} (hh : s.hand = none) (hq : s.inQ = e :: rest) (hsrc : e.data = some d ∨ lookup s.disk e.id = some d)
      (hb : Books s.cfg.maxBytes s.disk s.c s.disk c 0) :
      Shape s .feed { s with inQ := rest, c := c, hand := some (e, d) }
  | qdrop {e rest disk c} (hh : s.hand = none) (hq : s.inQ = e :: rest) (hf : FilesFrom disk s.disk [])
      (hb : Books s.cfg.maxBytes s.disk s.c disk c 1) :
      Shape s .feed { s with inQ := rest, disk := disk, c := c, droppedG := s.droppedG ++ [e.id] }
  | enq {id data e disk c} (hnd : s.destroyed = false) (hid : e.id = id)
      (hdata : e.data = none ∨ (e.data = some data ∧ s.outW.length < s.cfg.memCap / 2)) (hlt : s.inQ.length < s.cfg.queueCap)
      (hf : FilesFrom disk s.disk [{ id := id, data := some data, saved := false }])
      (hb : Books s.cfg.maxBytes s.disk s.c disk c 0) :
      Shape s (.op (.accept id data))
        { s with accepted := s.accepted ++ [(id, data)], disk := disk, c := c, inQ := s.inQ ++ [e] }
  | adrop {id data disk c} (hnd : s.destroyed = false)
      (hf : FilesFrom disk s.disk [{ id := id, data := some data, saved := false }])
      (hb : Books s.cfg.maxBytes s.disk s.c disk c 1) :
      Shape s (.op (.accept id data))
        { s with accepted := s.accepted ++ [(id, data)], disk := disk, c := c, droppedG := s.droppedG ++ [id] }
  | take {e rest} (hnd : s.destroyed = false) (ho : s.outW = e :: rest) :
      Shape s (.op .take) { s with outW := rest, held := s.held ++ [e], taken := s.taken ++ [(e.id, e.data.getD [])] }
  | confirmed {id e disk c} (he : s.held.find? (fun e => e.id = id) = some e) (hf : FilesFrom disk s.disk [])
      (hc : Counts s.c c 0 1)
      (hs : (∀ d', lookup s.disk e.id = some d' → dataLen e ≤ d'.length) → Space s.cfg.maxBytes s.disk s.c disk c) :
      Shape s (.op (.confirm id))
        { s with held := s.held.filter (fun e => e.id ≠ id), disk := disk, c := c, confirmedG := s.confirmedG ++ [id] }
  | keptBack {id e disk c} (he : s.held.find? (fun e => e.id = id) = some e) (hf : FilesFrom disk s.disk [e])
      (hb : Books s.cfg.maxBytes s.disk s.c disk c 0) :
      Shape s (.op (.handBack id))
        { s with held := s.held.filter (fun e => e.id ≠ id), disk := disk, c := c, keptG := s.keptG ++ [id] }
  | dropBack {id e c} (he : s.held.find? (fun e => e.id = id) = some e) (hb : Books s.cfg.maxBytes s.disk s.c s.disk c 1) :
      Shape s (.op (.handBack id))
        { s with held := s.held.filter (fun e => e.id ≠ id), c := c, droppedG := s.droppedG ++ [id] }
  | destroy {disk c dx kx} (hnd : s.destroyed = false)
      (hcnt : ∀ i, dx.count i + kx.count i = ((s.inQ ++ handEntry s.hand ++ s.outW).map (·.id)).count i)
      (hf : FilesFrom disk s.disk (s.inQ ++ handEntry s.hand ++ s.outW))
      (hb : Books s.cfg.maxBytes s.disk s.c disk c dx.length) :
      Shape s (.op .destroy)
        { s with inQ := [], hand := none, outW := [], destroyed := true, disk := disk, c := c,
                 droppedG := s.droppedG ++ dx, keptG := s.keptG ++ kx }
  | finish (hd : s.destroyed = true) : Shape s (.op .finish) s
  | extZero {id disk} : Shape s (.op (.extZero id)) { s with disk := disk }
  | extRemove {id disk} : Shape s (.op (.extRemove id)) { s with disk := disk }

theorem feederStep_shape {s s' : St} (h : feederStep s = some s') : Shape s .feed s' := by
  have hdeq (b : Bool) : Books s.cfg.maxBytes s.disk s.c s.disk
      (if b then { s.c with qT := s.c.qT - 1 } else { s.c with qP := s.c.qP - 1 }) 0 := by
    cases b <;> exact .of_counts ⟨rfl, rfl, rfl⟩ rfl
  revert h
  -- the branches of `feederStep` that return a state: case1 push, case4 nothing could be loaded, case5 loaded but empty
  -- (`OnChunkCorrupted`), case6 load; `s1` is the state after the entry has left the queue
  fun_cases feederStep s <;> intro h <;> cases h
  case case1 hh hlt => exact .push hh hlt
  case case4 hh e rest hq c s1 loaded hl s2 =>
    -- the chunk had no data in memory
    have hnone : e.saved = true → e.data = none := fun _ => by cases hd : e.data <;> simp [loaded, hd] at hl ⊢
    have e2 : s2 = { s1 with c := s2.c } := by simp only [s2]; split <;> rfl
    have h2 : Books s.cfg.maxBytes s.disk s1.c s.disk s2.c 0 :=
      .of_counts (by simp only [s2]; split <;> exact ⟨rfl, rfl, rfl⟩) (by simp only [s2]; split <;> rfl)
    rw [e2]
    exact .qdrop hh hq (.refl s.disk _) ((hdeq _).before (h2.before (onDropped_books _ { s1 with c := s2.c } e hnone)))
  case case5 hh e rest hq c s1 loaded d hl hz s2 =>
    obtain ⟨disk, c', hr, hf, hc, hsp⟩ := removeChunk_cases s1 { e with data := some d }
    simp only [s2, hr]
    exact .qdrop hh hq hf (((hdeq _).before ⟨hc, hsp fun _ _ => by simp [dataLen, hz]⟩).before
      (.of_counts ⟨by simp [bal]; omega, rfl, rfl⟩ rfl))
  case case6 hh e rest hq c s1 loaded d hl hz =>
    refine .load hh hq ?_ (hdeq _)
    cases hed : e.data with
    | some d0 => simp [loaded, hed] at hl; exact Or.inl (by rw [hl])
    | none => simp [loaded, hed] at hl; exact Or.inr hl.2

theorem accept_shape {s : St} (hnd : s.destroyed = false) (id : Nat) (data : Bytes) :
    Shape s (.op (.accept id data)) (accept s id data) := by
  unfold accept
  simp only
  split
  · -- the window is half full: counted as a persistent input, and written to a file first
    have hin : Books s.cfg.maxBytes s.disk s.c s.disk { s.c with pending := s.c.pending + 1, inP := s.c.inP + 1 } 0 :=
      .of_counts ⟨by simp [bal]; omega, rfl, rfl⟩ rfl
    rcases unload_cases
        { s with accepted := s.accepted ++ [(id, data)], c := { s.c with pending := s.c.pending + 1, inP := s.c.inP + 1 } }
        { id := id, data := some data, saved := false }
      with ⟨_, hu⟩ | ⟨disk, c, e', hu, hf, hb, hid, he'⟩ <;> simp only [unloadOrDrop, hu, if_true, Bool.false_eq_true, if_false]
    · exact .adrop hnd (.refl s.disk _) (hin.before (onDropped_books _
        { s with accepted := s.accepted ++ [(id, data)], c := { s.c with pending := s.c.pending + 1, inP := s.c.inP + 1 } }
        { id := id, data := some data, saved := false } (fun h => nomatch h)))
    · have hnone : e'.data = none := he' rfl
      simp only at hid
      subst hid
      split
      · rename_i hlt
        refine .enq hnd rfl (Or.inl hnone) hlt hf ?_
        exact (hin.before hb).after (.of_counts (by split <;> exact ⟨rfl, rfl, rfl⟩) (by split <;> rfl))
      · exact .adrop hnd hf ((hin.before hb).before
          (onDropped_books _ { s with accepted := s.accepted ++ [(e'.id, data)], disk := disk, c := c } e' fun _ => hnone))
  · rename_i hw
    have hin : Books s.cfg.maxBytes s.disk s.c s.disk { s.c with pending := s.c.pending + 1, inT := s.c.inT + 1 } 0 :=
      .of_counts ⟨by simp [bal]; omega, rfl, rfl⟩ rfl
    split
    · rename_i hlt
      refine .enq hnd rfl (Or.inr ⟨rfl, by simpa using hw⟩) hlt (.refl s.disk _) ?_
      exact hin.after (.of_counts ⟨rfl, rfl, rfl⟩ rfl)
    · exact .adrop hnd (.refl s.disk _) (hin.before (onDropped_books _
        { s with accepted := s.accepted ++ [(id, data)], c := { s.c with pending := s.c.pending + 1, inT := s.c.inT + 1 } }
        { id := id, data := some data, saved := false } (fun h => nomatch h)))

theorem saveOne_shape (s : St) (e : Entry) : ∃ disk c, FilesFrom disk s.disk [e] ∧
    ((Books s.cfg.maxBytes s.disk s.c disk c 0 ∧ saveOne s e = { s with disk := disk, c := c, keptG := s.keptG ++ [e.id] }) ∨
     (Books s.cfg.maxBytes s.disk s.c disk c 1 ∧
       saveOne s e = { s with disk := disk, c := c, droppedG := s.droppedG ++ [e.id] })) := by
  unfold saveOne unloadOrDrop
  rcases unload_cases s e with ⟨hs, hu⟩ | ⟨disk, c, e', hu, hf, hb, _⟩ <;> simp only [hu, if_true, Bool.false_eq_true, if_false]
  · exact ⟨s.disk, _, .refl _ _, .inr ⟨onDropped_books _ s e (fun h => nomatch hs ▸ h), rfl⟩⟩
  · exact ⟨disk, c, hf, .inl ⟨hb, rfl⟩⟩

theorem saveAll_shape : ∀ (es : List Entry) (s : St), ∃ disk c dx kx,
    saveAll s es = { s with disk := disk, c := c, droppedG := s.droppedG ++ dx, keptG := s.keptG ++ kx } ∧
    FilesFrom disk s.disk es ∧ Books s.cfg.maxBytes s.disk s.c disk c dx.length ∧
    ∀ i, dx.count i + kx.count i = (es.map (·.id)).count i
  | [], s => ⟨s.disk, s.c, [], [], by simp [saveAll], .refl _ _, .refl _ _ _, by simp⟩
  | e :: es, s => by
    obtain ⟨disk', c', dx, kx, h', hf', hb', hcnt⟩ := saveAll_shape es (saveOne s e)
    have hfs : ∀ {disk : List (Nat × Bytes)}, FilesFrom disk s.disk [e] → FilesFrom disk' disk es → FilesFrom disk' s.disk (e :: es) :=
      fun hf hf' => (hf'.mono fun x hx => List.mem_cons_of_mem _ hx).trans (hf.mono fun x hx => List.mem_singleton.mp hx ▸ List.mem_cons_self)
    obtain ⟨disk, c, hf, ⟨hb, h⟩ | ⟨hb, h⟩⟩ := saveOne_shape s e <;> rw [h] at h' hf' hb'
    · refine ⟨disk', c', dx, e.id :: kx, ?_, hfs hf hf', hb.before hb', fun i => ?_⟩
      · show saveAll (saveOne s e) es = _
        rw [h, h', List.append_assoc]; rfl
      · have := hcnt i
        simp only [List.count_cons, List.map_cons] at this ⊢
        omega
    · refine ⟨disk', c', e.id :: dx, kx, ?_, hfs hf hf', by simpa [Nat.add_comm] using hb.trans hb', fun i => ?_⟩
      · show saveAll (saveOne s e) es = _
        rw [h, h', List.append_assoc]; rfl
      · have := hcnt i
        simp only [List.count_cons, List.map_cons] at this ⊢
        omega

theorem stepI_shape {s s' : St} {a : IAct} (h : stepI s a = some s') : Shape s a s' := by
  cases a with
  | feed => exact feederStep_shape h
  | op o =>
    cases o with
    | accept id data =>
      obtain ⟨hnd, h⟩ := Option.ite_none_left_eq_some.mp h
      cases h
      exact accept_shape (by simpa using hnd) id data
    | take =>
      obtain ⟨hnd, h⟩ := Option.ite_none_left_eq_some.mp h
      split at h <;> cases h
      rename_i e rest ho
      exact .take (by simpa using hnd) ho
    | confirm id =>
      simp only [stepI, stepRaw, step] at h
      split at h <;> cases h
      rename_i e hf
      obtain ⟨disk, c, hr, hff, hc, hsp⟩ := removeChunk_cases s e
      rw [hr]
      refine .confirmed hf hff ⟨?_, hc.dropped, by simp [hc.consumed]⟩ fun hd => ⟨(hsp hd).bytes, (hsp hd).quota⟩
      have := hc.bal
      simp [bal] at this ⊢; omega
    | handBack id =>
      simp only [stepI, stepRaw, step] at h
      split at h
      · cases h
      · rename_i e hf
        have hid : e.id = id := by simpa using List.find?_some hf
        rcases unload_cases { s with held := s.held.filter (fun e => e.id ≠ id) } e with
          ⟨hs, hu⟩ | ⟨disk, c, e', hu, hff, hb, _⟩ <;> simp only [hu] at h <;> cases h
        · subst hid
          exact .dropBack hf (onDropped_books _ { s with held := s.held.filter (fun x => x.id ≠ e.id) } e
            (fun h => nomatch hs ▸ h))
        · exact .keptBack hf hff (hb.after (.of_counts ⟨by simp [bal]; omega, rfl, rfl⟩ rfl))
    | destroy =>
      obtain ⟨hnd, h⟩ := Option.ite_none_left_eq_some.mp h
      cases h
      obtain ⟨disk, c, dx, kx, hs, hf, hb, hcnt⟩ := saveAll_shape (s.inQ ++ handEntry s.hand ++ s.outW)
        { s with inQ := [], hand := none, outW := [], destroyed := true }
      rw [hs]
      exact .destroy (by simpa using hnd) hcnt hf hb
    | finish =>
      obtain ⟨hd, h⟩ := Option.ite_none_right_eq_some.mp h
      cases h
      exact .finish hd
    | extZero id =>
      simp only [stepI, stepRaw, step] at h
      split at h <;> cases h
      exact .extZero
    | extRemove id =>
      simp only [stepI, stepRaw, step] at h
      split at h <;> cases h
      exact .extRemove

theorem runI_ind_shape {P : St → Prop} (hstep : ∀ {s a s'}, Shape s a s' → okI s a → P s → P s')
    {s s' : St} {as : List IAct} (h : runI s as = some s') (hl : LegalI s as) (hp : P s) : P s' := by
  rw [runI_eq_runOpt] at h
  exact runOpt_induction (C := fun s as s' => LegalI s as → P s → P s') (fun _ _ hp => hp)
    (fun s a s1 _ _ hs _ ih hl hp => ih (hl.2 s1 hs) (hstep (stepI_shape hs) hl.1 hp)) h hl hp

theorem runI_inv_shape {P : St → Prop} (hstep : ∀ {s a s'}, Shape s a s' → P s → P s')
    {s s' : St} {as : List IAct} (h : runI s as = some s') (hp : P s) : P s' := by
  rw [runI_eq_runOpt] at h
  exact runOpt_inv (fun hs => hstep (stepI_shape hs)) h hp

theorem settle_accepted (n : Nat) (s : St) : (settle n s).accepted = s.accepted :=
  settle_ind (fun s' => s'.accepted = s.accepted) (fun _ _ hf hp => by cases feederStep_shape hf <;> exact hp) n s rfl

def recEntry (f : Nat × Bytes) : Entry := { id := f.1, data := none, saved := true }

/-- the counters after `n` files were recovered out of files holding `b` bytes -/
def recCounters (c : Counters) (n b : Nat) : Counters :=
  { c with pending := c.pending + n, inP := c.inP + n, gChunks := c.gChunks + n, gBytes := c.gBytes + b, qP := c.qP + n }

theorem recFold_eq (cfg : Cfg) : ∀ (files : List (Nat × Bytes)) (s : St),
    files.foldl (recStep cfg) s =
      { s with inQ := s.inQ ++ (files.take (cfg.queueCap - s.inQ.length)).map recEntry,
               accepted := s.accepted ++ files.take (cfg.queueCap - s.inQ.length),
               c := recCounters s.c (files.take (cfg.queueCap - s.inQ.length)).length (files.map (·.2.length)).sum }
  | [], s => by simp [recCounters]
  | f :: fs, s => by
    rw [List.foldl_cons, recFold_eq cfg fs]
    unfold recStep
    split
    · rename_i hlt
      obtain ⟨n, hn⟩ : ∃ n, cfg.queueCap - s.inQ.length = n + 1 := ⟨cfg.queueCap - s.inQ.length - 1, by omega⟩
      have : cfg.queueCap - (s.inQ.length + 1) = n := by omega
      simp [hn, this, recCounters, recEntry]; omega
    · rename_i hlt
      have : cfg.queueCap - s.inQ.length = 0 := by omega
      simp [this, recCounters]; omega

theorem recoverRaw_eq (cfg : Cfg) (disk : List (Nat × Bytes)) :
    recoverRaw cfg disk =
      { cfg := cfg, disk := disk, inQ := ((scanned cfg disk).take cfg.queueCap).map recEntry,
        accepted := (scanned cfg disk).take cfg.queueCap,
        c := recCounters { ioErr := if cfg.hasDir then 0 else 1 } ((scanned cfg disk).take cfg.queueCap).length
          ((scanned cfg disk).map (·.2.length)).sum } := by
  rw [recoverRaw, recFold_eq]; simp [start]

end C03
