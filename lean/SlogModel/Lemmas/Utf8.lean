import SlogModel.Model.Utf8

/-!
  Theory of `M_utf8`: a valid string is a sequence of complete rune encodings (`Runes`); `toValid`
  keeps whole runes and removes the bytes of a cut rune; `clean` of a cut valid string is a
  whole-rune prefix at most three bytes short (`clean_take_valid`).
-/

namespace Utf8

/-- a complete rune encoding: non-empty, and recognised with its own length whatever follows -/
def IsRune (r : Bytes) : Prop := r ≠ [] ∧ ∀ x, runeWidth (r ++ x) = r.length

def ok2 (b1 : Nat) : Bool := isCont b1
def ok3 (b0 b1 b2 : Nat) : Bool :=
  (if b0 = 224 then 160 else 128) ≤ b1 && b1 ≤ (if b0 = 237 then 159 else 191) && isCont b2
def ok4 (b0 b1 b2 b3 : Nat) : Bool :=
  (if b0 = 240 then 144 else 128) ≤ b1 && b1 ≤ (if b0 = 244 then 143 else 191) && isCont b2 && isCont b3

inductive Shape : Bytes → Prop
  | one (b0) : b0 < 128 → Shape [b0]
  | two (b0 b1) : 194 ≤ b0 → b0 ≤ 223 → ok2 b1 = true → Shape [b0, b1]
  | three (b0 b1 b2) : 224 ≤ b0 → b0 ≤ 239 → ok3 b0 b1 b2 = true → Shape [b0, b1, b2]
  | four (b0 b1 b2 b3) : 240 ≤ b0 → b0 ≤ 244 → ok4 b0 b1 b2 b3 = true → Shape [b0, b1, b2, b3]

theorem range_iff {lo hi b : Nat} : (decide (lo ≤ b) && decide (b ≤ hi)) = true ↔ lo ≤ b ∧ b ≤ hi := by
  rw [Bool.and_eq_true, decide_eq_true_eq, decide_eq_true_eq]

theorem range_not {lo hi b : Nat} (h : b < lo ∨ hi < b) : ¬ (decide (lo ≤ b) && decide (b ≤ hi)) = true :=
  fun h' => by have := range_iff.mp h'; omega

/-! `runeWidth` on each class of lead byte.  The chain of guards is exposed by `show` (definitional unfolding) and the
branch selected by rewriting the guards one by one: `simp` with `runeWidth` unfolded would normalise every branch of the
definition, and rewriting with `runeWidth` itself pays for its equation lemmas in every proof. -/

theorem runeWidth_ascii (b0 : Nat) (rest : Bytes) (h : b0 < 128) : runeWidth (b0 :: rest) = 1 := by
  show (if b0 < 128 then 1 else _) = 1
  exact if_pos h

theorem runeWidth_two (b0 b1 : Nat) (r : Bytes) (h1 : 194 ≤ b0) (h2 : b0 ≤ 223) :
    runeWidth (b0 :: b1 :: r) = if ok2 b1 then 2 else 0 := by
  have g1 : ¬ b0 < 128 := by omega
  show (if b0 < 128 then 1 else if (decide (194 ≤ b0) && decide (b0 ≤ 223)) = true then _ else _) = _
  rw [if_neg g1, if_pos (range_iff.mpr ⟨h1, h2⟩)]
  rfl

theorem runeWidth_three (b0 b1 b2 : Nat) (r : Bytes) (h1 : 224 ≤ b0) (h2 : b0 ≤ 239) :
    runeWidth (b0 :: b1 :: b2 :: r) = if ok3 b0 b1 b2 then 3 else 0 := by
  have g1 : ¬ b0 < 128 := by omega
  have g2 := range_not (lo := 194) (hi := 223) (b := b0) (.inr (by omega))
  show (if b0 < 128 then 1 else if (decide (194 ≤ b0) && decide (b0 ≤ 223)) = true then _ else
    if (decide (224 ≤ b0) && decide (b0 ≤ 239)) = true then _ else _) = _
  rw [if_neg g1, if_neg g2, if_pos (range_iff.mpr ⟨h1, h2⟩)]
  rfl

theorem runeWidth_four (b0 b1 b2 b3 : Nat) (r : Bytes) (h1 : 240 ≤ b0) (h2 : b0 ≤ 244) :
    runeWidth (b0 :: b1 :: b2 :: b3 :: r) = if ok4 b0 b1 b2 b3 then 4 else 0 := by
  have g1 : ¬ b0 < 128 := by omega
  have g2 := range_not (lo := 194) (hi := 223) (b := b0) (.inr (by omega))
  have g3 := range_not (lo := 224) (hi := 239) (b := b0) (.inr (by omega))
  show (if b0 < 128 then 1 else if (decide (194 ≤ b0) && decide (b0 ≤ 223)) = true then _ else
    if (decide (224 ≤ b0) && decide (b0 ≤ 239)) = true then _ else
    if (decide (240 ≤ b0) && decide (b0 ≤ 244)) = true then _ else _) = _
  rw [if_neg g1, if_neg g2, if_neg g3, if_pos (range_iff.mpr ⟨h1, h2⟩)]
  rfl

/-- `runeWidth` branch by branch: its four accepting branches are the four shapes.  Of the twelve branches `fun_cases`
numbers, 2 is ASCII, 3 a two-byte, 6 a three-byte and 9 a four-byte rune; all others return 0. -/
theorem shape_of_width (s : Bytes) :
    runeWidth s ≠ 0 → ∃ r t, s = r ++ t ∧ Shape r ∧ runeWidth s = r.length := by
  fun_cases runeWidth s
  case case2 b0 rest h => exact fun _ => ⟨[b0], rest, rfl, .one b0 h, rfl⟩
  case case3 b0 _ h b1 tl hk =>
    exact fun _ => ⟨[b0, b1], tl, rfl, .two b0 b1 (range_iff.mp h).1 (range_iff.mp h).2 hk, rfl⟩
  case case6 b0 _ _ h b1 b2 tl hk =>
    exact fun _ => ⟨[b0, b1, b2], tl, rfl, .three b0 b1 b2 (range_iff.mp h).1 (range_iff.mp h).2 hk, rfl⟩
  case case9 b0 _ _ _ h b1 b2 b3 tl hk =>
    exact fun _ => ⟨[b0, b1, b2, b3], tl, rfl, .four b0 b1 b2 b3 (range_iff.mp h).1 (range_iff.mp h).2 hk, rfl⟩
  all_goals exact fun h => absurd rfl h

theorem shape_width (r : Bytes) (h : Shape r) (x : Bytes) : runeWidth (r ++ x) = r.length := by
  cases h with
  | one b0 h => exact runeWidth_ascii _ _ h
  | two b0 b1 h1 h2 hk => exact (runeWidth_two b0 b1 x h1 h2).trans (if_pos hk)
  | three b0 b1 b2 h1 h2 hk => exact (runeWidth_three b0 b1 b2 x h1 h2).trans (if_pos hk)
  | four b0 b1 b2 b3 h1 h2 hk => exact (runeWidth_four b0 b1 b2 b3 x h1 h2).trans (if_pos hk)

theorem shape_ne (r : Bytes) (h : Shape r) : r ≠ [] := by cases h <;> simp
theorem shape_len (r : Bytes) (h : Shape r) : 1 ≤ r.length ∧ r.length ≤ 4 := by cases h <;> simp

theorem window_cont {c d : Prop} [Decidable c] [Decidable d] {lo hi b : Nat} (hlo : 128 ≤ lo) (hhi : hi ≤ 191)
    (h : (decide ((if c then lo else 128) ≤ b) && decide (b ≤ if d then hi else 191)) = true) : 128 ≤ b ∧ b ≤ 191 := by
  obtain ⟨h1, h2⟩ := range_iff.mp h
  constructor
  · split at h1 <;> omega
  · split at h2 <;> omega

theorem shape_cons {b0 : Nat} {tl : Bytes} (h : Shape (b0 :: tl)) :
    tl.length = (if b0 < 128 then 0 else if b0 ≤ 223 then 1 else if b0 ≤ 239 then 2 else 3) ∧
    (b0 < 128 ∨ 194 ≤ b0) ∧ ∀ c ∈ tl, 128 ≤ c ∧ c ≤ 191 := by
  cases h with
  | one _ h => exact ⟨(if_pos h).symm, .inl h, fun _ hc => nomatch hc⟩
  | two _ b1 h1 h2 hk =>
    exact ⟨by rw [if_neg (by omega), if_pos h2]; rfl, .inr h1,
      List.forall_mem_cons.mpr ⟨range_iff.mp hk, fun _ hc => nomatch hc⟩⟩
  | three _ b1 b2 h1 h2 hk =>
    obtain ⟨k1, k2⟩ := Bool.and_eq_true_iff.mp hk
    exact ⟨by rw [if_neg (by omega), if_neg (by omega), if_pos h2]; rfl, .inr (by omega),
      List.forall_mem_cons.mpr ⟨window_cont (by decide) (by decide) k1,
      List.forall_mem_cons.mpr ⟨range_iff.mp k2, fun _ hc => nomatch hc⟩⟩⟩
  | four _ b1 b2 b3 h1 h2 hk =>
    obtain ⟨k12, k3⟩ := Bool.and_eq_true_iff.mp hk
    obtain ⟨k1, k2⟩ := Bool.and_eq_true_iff.mp k12
    exact ⟨by rw [if_neg (by omega), if_neg (by omega), if_neg (by omega)]; rfl, .inr (by omega),
      List.forall_mem_cons.mpr ⟨window_cont (by decide) (by decide) k1,
      List.forall_mem_cons.mpr ⟨range_iff.mp k2, List.forall_mem_cons.mpr ⟨range_iff.mp k3, fun _ hc => nomatch hc⟩⟩⟩⟩

theorem runeWidth_invalid_lead (b0 : Nat) (rest : Bytes) (h : 128 ≤ b0) (h' : b0 < 194 ∨ 244 < b0) :
    runeWidth (b0 :: rest) = 0 := by
  false_or_by_contra
  rename_i hw
  obtain ⟨r, t, hs, hr, -⟩ := shape_of_width _ hw
  cases hr <;> (cases (List.cons.inj hs).1; omega)

/-- a lead byte of a multi-byte rune with fewer bytes behind it than it demands -/
theorem runeWidth_short (b0 : Nat) (r : Bytes) (h : 194 ≤ b0)
    (hr : r.length < if b0 ≤ 223 then 1 else if b0 ≤ 239 then 2 else 3) : runeWidth (b0 :: r) = 0 := by
  false_or_by_contra
  rename_i hw
  obtain ⟨r', t, hs, hr', -⟩ := shape_of_width _ hw
  obtain ⟨c0, tl, rfl⟩ := List.exists_cons_of_ne_nil (shape_ne r' hr')
  obtain ⟨rfl, hrt⟩ := List.cons.inj hs
  have hl := (shape_cons hr').1
  rw [if_neg (by omega)] at hl
  rw [show r = tl ++ t from hrt, List.length_append] at hr
  omega

theorem shape_ascii (r : Bytes) (h : Shape r) (b : Nat) (hb : b ∈ r) (ha : b < 128) : r = [b] := by
  obtain ⟨b0, tl, rfl⟩ := List.exists_cons_of_ne_nil (shape_ne r h)
  obtain ⟨hl, -, h2⟩ := shape_cons h
  rcases List.mem_cons.mp hb with rfl | hm
  · rw [if_pos ha] at hl; rw [List.eq_nil_of_length_eq_zero hl]
  · have := h2 b hm; omega

inductive Runes : Bytes → Prop
  | nil : Runes []
  | cons (r rest : Bytes) : Shape r → Runes rest → Runes (r ++ rest)

theorem validAux_runes (fuel : Nat) (s : Bytes) : validAux fuel s = true → Runes s := by
  -- the branches of `validAux`: out of fuel; the empty string; no rune at the head; a rune at the head
  fun_induction validAux fuel s with
  | case1 s => intro h; rw [List.isEmpty_iff.mp h]; exact .nil
  | case2 => exact fun _ => .nil
  | case3 => exact fun h => nomatch h
  | case4 fuel b rest w hw ih =>
    intro h
    obtain ⟨r, t, hs, hr, hl⟩ := shape_of_width _ hw
    rw [show w = r.length from hl, hs, List.drop_left' rfl] at ih h
    exact hs ▸ .cons r t hr (ih h)

theorem valid_runes (s : Bytes) (h : valid s = true) : Runes s := validAux_runes _ _ h

theorem validAux_shape {r : Bytes} (hr : Shape r) (fuel : Nat) (x : Bytes) :
    validAux (fuel + 1) (r ++ x) = validAux fuel x := by
  obtain ⟨b, r', rfl⟩ := List.exists_cons_of_ne_nil (shape_ne r hr)
  have hw := shape_width _ hr x
  rw [List.cons_append] at hw ⊢
  rw [validAux, hw, if_neg (by simp), ← List.cons_append, List.drop_left' rfl]

theorem runes_validAux (s : Bytes) (h : Runes s) : ∀ fuel, s.length ≤ fuel → validAux fuel s = true := by
  induction h with
  | nil => intro fuel _; cases fuel <;> rfl
  | cons r rest hr _ ih =>
    intro fuel hf
    have hl := shape_len r hr
    rw [List.length_append] at hf
    obtain ⟨n, rfl⟩ := Nat.exists_eq_add_of_le (show 1 ≤ fuel by omega)
    rw [Nat.add_comm 1 n, validAux_shape hr]
    exact ih n (by omega)

theorem runes_valid (s : Bytes) (h : Runes s) : valid s = true := runes_validAux s h _ (Nat.le_refl _)

theorem runes_append (a b : Bytes) (ha : Runes a) (hb : Runes b) : Runes (a ++ b) := by
  induction ha with
  | nil => simpa
  | cons r rest hr _ ih => rw [List.append_assoc]; exact .cons r _ hr ih

theorem toValidAux_fuel (f1 f2 : Nat) (s : Bytes) (h1 : s.length ≤ f1) (h2 : s.length ≤ f2) :
    toValidAux f1 s = toValidAux f2 s := by
  -- the branches of `toValidAux`: out of fuel; the empty string; no rune at the head; a rune at the head
  fun_induction toValidAux f1 s generalizing f2 with
  | case1 s => obtain rfl := List.eq_nil_of_length_eq_zero (Nat.le_zero.mp h1); cases f2 <;> rfl
  | case2 => cases f2 <;> rfl
  | case3 fuel b rest w hw ih =>
    obtain ⟨m, rfl⟩ := Nat.exists_eq_add_of_le (show 1 ≤ f2 from Nat.le_trans (Nat.le_add_left 1 _) h2)
    rw [Nat.add_comm 1 m, toValidAux]
    exact (ih m (Nat.le_of_succ_le_succ h1) (by simp only [List.length_cons] at h2; omega)).trans (if_pos hw).symm
  | case4 fuel b rest w hw ih =>
    obtain ⟨m, rfl⟩ := Nat.exists_eq_add_of_le (show 1 ≤ f2 from Nat.le_trans (Nat.le_add_left 1 _) h2)
    have hd : ((b :: rest).drop w).length ≤ rest.length := by simp only [List.length_drop, List.length_cons]; omega
    rw [Nat.add_comm 1 m, toValidAux, ih m (Nat.le_trans hd (Nat.le_of_succ_le_succ h1))
      (Nat.le_trans hd (by simp only [List.length_cons] at h2; omega))]
    exact (if_neg hw).symm

theorem toValid_nil : toValid [] = [] := rfl

theorem toValid_cons (b : Nat) (rest : Bytes) :
    toValid (b :: rest) = if runeWidth (b :: rest) = 0 then toValid rest
      else (b :: rest).take (runeWidth (b :: rest)) ++ toValid ((b :: rest).drop (runeWidth (b :: rest))) := by
  simp only [toValid, List.length_cons, toValidAux]
  split
  · rfl
  · congr 1
    apply toValidAux_fuel
    · simp only [List.length_drop, List.length_cons]; omega
    · exact Nat.le_refl _

theorem toValid_shape {r : Bytes} (hr : Shape r) (x : Bytes) : toValid (r ++ x) = r ++ toValid x := by
  obtain ⟨b, r', rfl⟩ := List.exists_cons_of_ne_nil (shape_ne r hr)
  have hw := shape_width _ hr x
  rw [List.cons_append] at hw ⊢
  rw [toValid_cons, hw, if_neg (by simp), ← List.cons_append, List.take_left' rfl, List.drop_left' rfl]

theorem toValid_runes (a : Bytes) (ha : Runes a) (x : Bytes) : toValid (a ++ x) = a ++ toValid x := by
  induction ha with
  | nil => rfl
  | cons r rest hr _ ih => rw [List.append_assoc, toValid_shape hr, ih, List.append_assoc]

theorem toValidAux_drop (fuel : Nat) (p : Bytes) (hp : ∀ t, t <:+ p → t ≠ [] → runeWidth t = 0) :
    toValidAux fuel p = [] := by
  fun_induction toValidAux fuel p with
  | case1 | case2 => rfl
  | case3 fuel b rest w hw ih => exact ih fun t hs ht => hp t (hs.trans (List.suffix_cons b rest)) ht
  | case4 fuel b rest w hw ih => exact absurd (hp _ List.suffix_rfl (List.cons_ne_nil _ _)) hw

/-- A proper prefix of a rune: no suffix of it starts a rune.  A suffix either starts with the lead byte and is too short
for the length the lead byte demands, or starts with a continuation byte. -/
theorem partial_drop (r : Bytes) (hr : Shape r) (j : Nat) (hj : j < r.length) :
    ∀ t, t <:+ r.take j → t ≠ [] → runeWidth t = 0 := by
  intro t hs ht
  obtain ⟨b0, tl, rfl⟩ := List.exists_cons_of_ne_nil (shape_ne r hr)
  obtain ⟨hl, hb, hc⟩ := shape_cons hr
  cases j with
  | zero => exact absurd (List.suffix_nil.mp hs) ht
  | succ j =>
    rw [List.length_cons] at hj
    rw [List.take_succ_cons] at hs
    rcases List.suffix_cons_iff.mp hs with rfl | h
    · have hb0 : 194 ≤ b0 := by
        refine hb.resolve_left fun hb => ?_
        rw [if_pos hb] at hl
        omega
      refine runeWidth_short b0 _ hb0 ?_
      rw [if_neg (by omega)] at hl
      rw [List.length_take, ← hl]
      omega
    · obtain ⟨c0, t', rfl⟩ := List.exists_cons_of_ne_nil ht
      have hm := hc c0 (List.mem_of_mem_take (h.subset List.mem_cons_self))
      exact runeWidth_invalid_lead c0 t' hm.1 (.inl (by omega))

theorem toValid_partial (r : Bytes) (hr : Shape r) (j : Nat) (hj : j < r.length) : toValid (r.take j) = [] :=
  toValidAux_drop _ _ (partial_drop r hr j hj)

theorem toValid_take (msg : Bytes) (h : Runes msg) (n : Nat) :
    ∃ k, toValid (msg.take n) = msg.take k ∧ Runes (msg.take k) ∧ k ≤ n ∧ (n ≤ msg.length → n ≤ k + 3) := by
  -- a cut inside the first rune leaves nothing; otherwise peel the rune and recurse
  induction h generalizing n with
  | nil => exact ⟨0, by rw [List.take_nil]; rfl, .nil, Nat.zero_le _, fun h => Nat.le_trans h (Nat.zero_le _)⟩
  | cons r rest hr _ ih =>
    have hl := shape_len r hr
    by_cases hn : n < r.length
    · refine ⟨0, ?_, .nil, Nat.zero_le _, fun _ => by omega⟩
      rw [List.take_append_of_le_length (by omega), toValid_partial r hr n hn]; rfl
    · obtain ⟨n', rfl⟩ := Nat.exists_eq_add_of_le (Nat.le_of_not_lt hn)
      obtain ⟨k, h1, h2, h3, h4⟩ := ih n'
      refine ⟨r.length + k, ?_, ?_, by omega, fun h => ?_⟩
      · rw [List.take_length_add_append, List.take_length_add_append, toValid_shape hr, h1]
      · rw [List.take_length_add_append]; exact .cons r _ hr h2
      · rw [List.length_append] at h; have := h4 (by omega); omega

theorem runes_take_ascii (msg : Bytes) (h : Runes msg) (k b : Nat) (hb : msg[k]? = some b) (hb' : b ≤ 127) :
    Runes (msg.take (k + 1)) := by
  -- an ASCII byte is a rune of its own, so `k + 1` is a rune boundary
  induction h generalizing k with
  | nil => cases hb
  | cons r rest hr _ ih =>
    by_cases hlt : k < r.length
    · rw [List.getElem?_append_left hlt] at hb
      obtain rfl := shape_ascii r hr b (List.mem_of_getElem? hb) (by omega)
      obtain rfl : k = 0 := Nat.lt_one_iff.mp hlt
      exact .cons [b] [] hr .nil
    · obtain ⟨k', rfl⟩ := Nat.exists_eq_add_of_le (Nat.le_of_not_lt hlt)
      rw [List.getElem?_append_right (Nat.le_add_right _ _), Nat.add_sub_cancel_left] at hb
      rw [Nat.add_assoc, List.take_length_add_append]
      exact .cons r _ hr (ih k' hb)

theorem lastAsciiEnd_go_spec (s : Bytes) (i best : Nat) :
    lastAsciiEnd.go s i best = best ∨
      ∃ k b, s[k]? = some b ∧ b ≤ 127 ∧ lastAsciiEnd.go s i best = i + k + 1 := by
  fun_induction lastAsciiEnd.go s i best with
  | case1 => exact .inl rfl
  | case2 b r i best ih =>
    rcases ih with h | ⟨k, c, h1, h2, h3⟩
    · rw [h]
      split
      · exact .inr ⟨0, b, rfl, ‹_›, rfl⟩
      · exact .inl rfl
    · exact .inr ⟨k + 1, c, h1, h2, by rw [h3]; omega⟩

theorem lastAsciiEnd_spec (s : Bytes) :
    lastAsciiEnd s = 0 ∨ ∃ k b, s[k]? = some b ∧ b ≤ 127 ∧ lastAsciiEnd s = k + 1 := by
  rcases lastAsciiEnd_go_spec s 0 0 with h | ⟨k, b, h1, h2, h3⟩
  · exact .inl h
  · exact .inr ⟨k, b, h1, h2, h3.trans (by rw [Nat.zero_add])⟩

theorem clean_eq_toValid (s : Bytes) (h : Runes (s.take (lastAsciiEnd s))) : clean s = toValid s := by
  unfold clean
  simp only [toValidTR_eq]
  rw [← toValid_runes _ h, List.take_append_drop]

theorem clean_take (msg : Bytes) (h : Runes msg) (n : Nat) : clean (msg.take n) = toValid (msg.take n) := by
  -- up to the last ASCII byte the cut string is whole runes
  apply clean_eq_toValid
  rcases lastAsciiEnd_spec (msg.take n) with h0 | ⟨k, b, h1, h2, h3⟩
  · rw [h0]; exact .nil
  · rw [List.getElem?_take] at h1
    split at h1
    · rw [h3, List.take_take, Nat.min_eq_left (by omega)]
      exact runes_take_ascii msg h k b h1 h2
    · cases h1

theorem clean_take_valid (msg : Bytes) (hv : valid msg = true) (n : Nat) :
    ∃ k, clean (msg.take n) = msg.take k ∧ valid (msg.take k) = true ∧ k ≤ n ∧ (n ≤ msg.length → n ≤ k + 3) := by
  have hr := valid_runes msg hv
  obtain ⟨k, h1, h2, h3, h4⟩ := toValid_take msg hr n
  exact ⟨k, (clean_take msg hr n).trans h1, runes_valid _ h2, h3, h4⟩

theorem clean_valid (s : Bytes) (hv : valid s = true) : clean s = s := by
  have hr := valid_runes s hv
  have e := toValid_runes s hr []
  rw [toValid_nil, List.append_nil] at e
  have h := clean_take s hr s.length
  rwa [List.take_length, e] at h

theorem runes_ascii (s : Bytes) (h : ∀ b ∈ s, b ≤ 127) : Runes s := by
  induction s with
  | nil => exact .nil
  | cons b r ih =>
    exact .cons [b] r (.one b (Nat.lt_succ_of_le (h b (List.mem_cons_self ..)))) (ih fun x hx => h x (List.mem_cons_of_mem _ hx))

theorem clean_ascii (s : Bytes) (h : ∀ b ∈ s, b ≤ 127) : clean s = s :=
  clean_valid s (runes_valid s (runes_ascii s h))

theorem toValidAux_length (fuel : Nat) (s : Bytes) : (toValidAux fuel s).length ≤ s.length := by
  fun_induction toValidAux fuel s with
  | case1 | case2 => exact Nat.zero_le _
  | case3 _ _ _ _ _ ih => exact Nat.le_succ_of_le ih
  | case4 _ b rest w _ ih =>
    simp only [List.length_append, List.length_take, List.length_drop] at ih ⊢
    omega

theorem clean_length (s : Bytes) : (clean s).length ≤ s.length := by
  unfold clean
  simp only [toValidTR_eq, toValid, List.length_append, List.length_take]
  have := toValidAux_length (s.drop (lastAsciiEnd s)).length (s.drop (lastAsciiEnd s))
  simp only [List.length_drop] at this ⊢
  omega

example : valid [104, 195, 169, 226, 130, 172] = true := by decide
example : clean ([104, 195, 169, 226, 130, 172].take 5) = [104, 195, 169] := by decide

end Utf8
