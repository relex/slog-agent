/-!
  Association lists `List (κ × β)` read by `find?`, cut by `filter`, extended at the end.  `Reload.aget / adel / aput`,
  `Disk.fget / del / put`, `Pool.lookup / remove` and `Buffer.lookup / remove` unfold to these, so a lemma applies to them by `exact`;
  `rw` does not see through the model's names, which is why the models' lemma files restate the few equations they rewrite with.
-/

namespace Assoc
variable {κ β : Type} [DecidableEq κ]

def get (l : List (κ × β)) (k : κ) : Option β := (l.find? (fun p => p.1 = k)).map (·.2)
def del (l : List (κ × β)) (k : κ) : List (κ × β) := l.filter (fun p => p.1 ≠ k)
def put (l : List (κ × β)) (k : κ) (v : β) : List (κ × β) := del l k ++ [(k, v)]
def keys (l : List (κ × β)) : List κ := l.map (·.1)

theorem get_cons (p : κ × β) (l : List (κ × β)) (m : κ) : get (p :: l) m = if p.1 = m then some p.2 else get l m := by
  by_cases e : p.1 = m <;> simp [get, e]

theorem del_cons (p : κ × β) (l : List (κ × β)) (k : κ) : del (p :: l) k = if p.1 = k then del l k else p :: del l k := by
  by_cases e : p.1 = k <;> simp [del, e]

theorem get_del (l : List (κ × β)) (k m : κ) : get (del l k) m = if m = k then none else get l m := by
  induction l with
  | nil => simp [get, del]
  | cons p l ih =>
    rw [del_cons, get_cons]
    by_cases e : p.1 = k
    · rw [if_pos e, ih]
      split
      · rfl
      · rename_i h; rw [if_neg (fun e' => h (e'.symm.trans e))]
    · rw [if_neg e, get_cons, ih]
      split
      · rename_i h; rw [if_neg (fun e' => e (h.trans e'))]
      · rfl

theorem get_snoc (l : List (κ × β)) (k m : κ) (v : β) :
    get (l ++ [(k, v)]) m = (get l m).or (if m = k then some v else none) := by
  induction l with
  | nil => by_cases e : k = m <;> simp [get, e, eq_comm]
  | cons p l ih => rw [List.cons_append, get_cons, get_cons, ih]; split <;> rfl

theorem get_put (l : List (κ × β)) (k m : κ) (v : β) : get (put l k v) m = if m = k then some v else get l m := by
  rw [put, get_snoc, get_del]; split <;> simp

theorem mem_of_get {l : List (κ × β)} {k : κ} {v : β} (h : get l k = some v) : (k, v) ∈ l := by
  induction l with
  | nil => cases h
  | cons p l ih =>
    rw [get_cons] at h
    split at h
    · rename_i e; cases h; cases e; exact List.mem_cons_self
    · exact List.mem_cons_of_mem _ (ih h)

theorem get_eq_none {l : List (κ × β)} {k : κ} : get l k = none ↔ k ∉ keys l := by
  induction l with
  | nil => exact ⟨fun _ => List.not_mem_nil, fun _ => rfl⟩
  | cons p l ih =>
    rw [get_cons, keys, List.map_cons, List.mem_cons, not_or]
    split
    · rename_i e; exact ⟨nofun, fun h => absurd e.symm h.1⟩
    · rename_i e; exact ⟨fun h => ⟨fun e' => e e'.symm, ih.mp h⟩, fun h => ih.mpr h.2⟩

theorem get_isSome {l : List (κ × β)} {k : κ} : (get l k).isSome ↔ k ∈ keys l := by
  rw [← Decidable.not_iff_not, ← get_eq_none]
  cases get l k <;> simp

theorem get_of_mem {l : List (κ × β)} {k : κ} {v : β} (hn : (keys l).Nodup) (hm : (k, v) ∈ l) : get l k = some v := by
  induction l with
  | nil => cases hm
  | cons p l ih =>
    rw [keys, List.map_cons, List.nodup_cons] at hn
    rw [get_cons]
    rcases List.mem_cons.mp hm with rfl | h
    · rw [if_pos rfl]
    · rw [if_neg (fun e => hn.1 (List.mem_map.mpr ⟨_, h, e.symm⟩)), ih hn.2 h]

theorem eq_of_mem {l : List (κ × β)} (hn : (keys l).Nodup) {a b : κ × β} (ha : a ∈ l) (hb : b ∈ l) (hab : a.1 = b.1) : a = b :=
  Prod.ext hab (Option.some.inj ((get_of_mem hn ha).symm.trans (hab ▸ get_of_mem hn hb)))

theorem mem_del {l : List (κ × β)} {k : κ} {p : κ × β} (h : p ∈ del l k) : p ∈ l := (List.mem_filter.mp h).1

theorem mem_put {l : List (κ × β)} {k : κ} {v : β} {p : κ × β} (h : p ∈ put l k v) : p ∈ l ∨ p = (k, v) := by
  rcases List.mem_append.mp h with h | h
  · exact .inl (mem_del h)
  · exact .inr (List.mem_singleton.mp h)

theorem del_of_not_mem {l : List (κ × β)} {k : κ} (h : k ∉ keys l) : del l k = l :=
  List.filter_eq_self.mpr fun p hp => decide_eq_true fun e => h (List.mem_map.mpr ⟨p, hp, e⟩)

theorem keys_del_sublist (l : List (κ × β)) (k : κ) : (keys (del l k)).Sublist (keys l) := List.filter_sublist.map _

theorem nodup_del {l : List (κ × β)} (k : κ) (h : (keys l).Nodup) : (keys (del l k)).Nodup := (keys_del_sublist l k).nodup h

omit [DecidableEq κ] in
theorem nodup_snoc {l : List (κ × β)} {k : κ} (v : β) (h : (keys l).Nodup) (hk : k ∉ keys l) : (keys (l ++ [(k, v)])).Nodup := by
  rw [keys, List.map_append]
  refine List.nodup_append.mpr ⟨h, List.pairwise_singleton _ _, fun a ha b hb e => hk ?_⟩
  cases List.mem_singleton.mp hb; cases e; exact ha

theorem nodup_put {l : List (κ × β)} (k : κ) (v : β) (h : (keys l).Nodup) : (keys (put l k v)).Nodup :=
  nodup_snoc v (nodup_del k h) (get_eq_none.mp (by rw [get_del, if_pos rfl]))

end Assoc
