import SlogModel.Model.E2E
import SlogModel.Lemmas.Run
import SlogModel.Lemmas.List

/-!
  `E2E.step` as a relation and its two invariants: `C01.PInv` (every chunk is in exactly one place, the chunks hold the
  records read) and `C05.OInv` (chunks travel in id order); `E2E.reach` gives both at every reachable state.
-/

namespace E2E

def closed (s : St) : St :=
  { s with cur := [], nextChunk := s.nextChunk + 1, content := s.content ++ [(s.nextChunk, s.cur)] }

/-- what `stop` does once no chunk is open -/
def park (s : St) : St :=
  { s with disk := sortIds (s.inflight ++ s.queue), queue := [], inflight := [], running := false }

theorem closeChunk_eq (s : St) : closeChunk s = if s.cur = [] then (s, none) else (closed s, some s.nextChunk) := rfl

theorem closeChunk_some {s s1 : St} {c : Nat} (h : closeChunk s = (s1, some c)) :
    s.cur ≠ [] ∧ s1 = closed s ∧ c = s.nextChunk := by
  rw [closeChunk_eq] at h
  split at h <;> cases h
  exact ⟨‹_›, rfl, rfl⟩

inductive Step (s : St) : Act → St → Prop
  | read (hr : s.running = true) : Step s .read { s with nextRec := s.nextRec + 1, cur := s.cur ++ [s.nextRec] }
  | flushAccept (hr : s.running = true) (hne : s.cur ≠ []) :
      Step s .flushAccept { closed s with queue := s.queue ++ [s.nextChunk] }
  | flushDrop (hr : s.running = true) (hne : s.cur ≠ []) :
      Step s .flushDrop { closed s with dropped := s.dropped ++ [s.nextChunk] }
  | take {c rest} (hr : s.running = true) (hq : s.queue = c :: rest) :
      Step s .take { s with queue := rest, inflight := s.inflight ++ [c], sentLog := s.sentLog ++ [(s.conn, c)] }
  | ack {c} (hr : s.running = true) (hc : c ∈ s.inflight) :
      Step s (.ack c) { s with inflight := s.inflight.filter (· ≠ c), acked := s.acked ++ [c] }
  | drop {c} (hr : s.running = true) (hc : c ∈ s.queue ∨ c ∈ s.inflight) :
      Step s (.drop c)
        { s with queue := s.queue.filter (· ≠ c), inflight := s.inflight.filter (· ≠ c), dropped := s.dropped ++ [c] }
  | connFail (hr : s.running = true) :
      Step s .connFail { s with queue := sortIds (s.inflight ++ s.queue), inflight := [], conn := s.conn + 1 }
  | stop (hr : s.running = true) (hc : s.cur = []) : Step s .stop (park s)
  -- `stop` with an open chunk is `flushAccept` followed by `park`: an induction hands the invariant of `s1` to this case
  | flushStop {s1} (h1 : Step s .flushAccept s1) : Step s .stop (park s1)
  | restart (hr : s.running = false) :
      Step s .restart { s with queue := s.disk, disk := [], running := true, conn := s.conn + 1 }

theorem Step.of_step {s : St} {a : Act} {s' : St} (h : step s a = some s') : Step s a s' := by
  have run : ¬ (!s.running) = true → s.running = true := by simp
  -- one goal per enabled branch of `step`, in its order, with the guards in context
  revert h
  fun_cases step s a <;> intro h <;> cases h
  next hr => exact .read (run hr)
  next hr _ _ hc => obtain ⟨hne, rfl, rfl⟩ := closeChunk_some hc; exact .flushAccept (run hr) hne
  next hr _ _ hc => obtain ⟨hne, rfl, rfl⟩ := closeChunk_some hc; exact .flushDrop (run hr) hne
  next hr _ _ hq => exact .take (run hr) hq
  next hg => simp only [not_or, Decidable.not_not] at hg; exact .ack (run hg.1) hg.2
  next hg => simp only [not_or] at hg; exact .drop (run hg.1) (Decidable.or_iff_not_not_and_not.mpr hg.2)
  next hr => exact .connFail (run hr)
  next hr s1 =>
    by_cases hc : s.cur = []
    · have e : s1 = s := by simp only [s1, closeChunk_eq, if_pos hc]
      rw [e]; exact .stop (run hr) hc
    · have e : s1 = { closed s with queue := s.queue ++ [s.nextChunk] } := by simp only [s1, closeChunk_eq, if_neg hc]; rfl
      rw [e]; exact .flushStop (.flushAccept (run hr) hc)
  next hr => exact .restart (by simpa using hr)

theorem Step.to_step {s s' : St} {a : Act} (h : Step s a s') : step s a = some s' := by
  cases h
  case flushStop h1 => cases h1; simp [step, closeChunk_eq, park, closed, *]
  case stop hr hc => simp [step, closeChunk_eq, park, hr, hc]
  case drop hr hc => simp [step, hr, Decidable.or_iff_not_not_and_not.mp hc]
  all_goals simp [step, closeChunk_eq, closed, *]

theorem run_eq_runOpt : run = runOpt step :=
  runOpt_unique (fun _ => rfl) (fun s a as => by rw [run]; cases step s a <;> rfl)

theorem run_trans {s s1 s2 : St} {a b : List Act} (h1 : run s a = some s1) (h2 : run s1 b = some s2) :
    run s (a ++ b) = some s2 := by
  rw [run_eq_runOpt] at *; exact runOpt_trans h1 h2

end E2E

open E2E

theorem C05.ins_of_lt (x : Nat) : ∀ (l : List Nat), (∀ y ∈ l, x < y) → ins x l = x :: l
  | [], _ => rfl
  | y :: r, h => by rw [ins, if_pos (Nat.le_of_lt (h y List.mem_cons_self))]

namespace C01

def places (s : St) : List Nat := s.queue ++ s.inflight ++ s.acked ++ s.dropped ++ s.disk

structure PInv (s : St) : Prop where
  chunks : ∀ c, (places s).count c = if c < s.nextChunk then 1 else 0
  ids : s.content.map (·.1) = List.range s.nextChunk
  recs : s.content.flatMap (·.2) ++ s.cur = List.range s.nextRec
  nonempty : ∀ p ∈ s.content, p.2 ≠ []
  rd : s.running = true → s.disk = []
  nr : s.running = false → s.queue = [] ∧ s.inflight = [] ∧ s.cur = []

theorem count_ins (c x : Nat) (l : List Nat) : (ins x l).count c = l.count c + (if c = x then 1 else 0) := by
  fun_induction ins x l with
  | case1 => exact count_cons_ite x c []
  | case2 => exact count_cons_ite x c _
  | case3 y r _ ih => rw [count_cons_ite, ih, count_cons_ite]; omega

theorem count_sortIds (c : Nat) : ∀ l : List Nat, (sortIds l).count c = l.count c
  | [] => rfl
  | x :: r => by rw [sortIds, count_ins, count_sortIds c r, count_cons_ite]

theorem mem_ins {x z : Nat} {l : List Nat} : z ∈ ins x l ↔ z = x ∨ z ∈ l := by
  fun_induction ins x l <;> simp [*, or_left_comm]

theorem ins_sorted (x : Nat) (l : List Nat) (h : l.Pairwise (· ≤ ·)) : (ins x l).Pairwise (· ≤ ·) := by
  fun_induction ins x l with
  | case1 => exact List.pairwise_singleton _ _
  | case2 y r hle =>
    refine List.pairwise_cons.mpr ⟨fun z hz => ?_, h⟩
    rcases List.mem_cons.mp hz with rfl | m
    · exact hle
    · exact Nat.le_trans hle (List.rel_of_pairwise_cons h m)
  | case3 y r hle ih =>
    rw [List.pairwise_cons] at h ⊢
    refine ⟨fun z hz => ?_, ih h.2⟩
    rcases mem_ins.mp hz with rfl | m
    · omega
    · exact h.1 z m

theorem sortIds_le : ∀ (l : List Nat), (sortIds l).Pairwise (· ≤ ·)
  | [] => .nil
  | x :: r => ins_sorted x _ (sortIds_le r)

theorem sortIds_perm (l : List Nat) : (sortIds l).Perm l := List.perm_iff_count.mpr fun c => count_sortIds c l

theorem sortIds_eq_of_sorted (l r : List Nat) (hl : l.Nodup) (hr : r.Pairwise (· < ·)) (hm : ∀ c, c ∈ l ↔ c ∈ r) :
    sortIds l = r :=
  List.Perm.eq_of_pairwise (le := (· ≤ ·)) (fun _ _ _ _ h1 h2 => Nat.le_antisymm h1 h2) (sortIds_le l)
    (hr.imp Nat.le_of_lt) ((sortIds_perm l).trans ((List.perm_ext_iff_of_nodup hl (hr.imp Nat.ne_of_lt)).mpr hm))

theorem sortIds_of_sorted : ∀ (l : List Nat), l.Pairwise (· < ·) → sortIds l = l
  | [], _ => rfl
  | x :: r, h => by
    have hp := List.pairwise_cons.mp h
    rw [sortIds, sortIds_of_sorted r hp.2]
    exact C05.ins_of_lt x r hp.1

theorem count_places (s : St) (c : Nat) : (places s).count c =
    s.queue.count c + s.inflight.count c + s.acked.count c + s.dropped.count c + s.disk.count c := by
  simp only [places, List.count_append]

theorem PInv.count_le_one {s : St} (hi : PInv s) (c : Nat) :
    s.queue.count c + s.inflight.count c + s.acked.count c + s.dropped.count c + s.disk.count c ≤ 1 := by
  rw [← count_places, hi.chunks]; split <;> omega

theorem PInv.lt_of_mem {s : St} (hp : PInv s) {c : Nat} (h : c ∈ places s) : c < s.nextChunk := by
  have h1 := hp.chunks c
  have h2 : 0 < (places s).count c := List.count_pos_iff.mpr h
  split at h1
  · assumption
  · omega

theorem PInv.move {s s' : St} (hi : PInv s) (hp : ∀ c, (places s').count c = (places s).count c)
    (h1 : s'.nextChunk = s.nextChunk) (h2 : s'.content = s.content) (h3 : s'.cur = s.cur) (h4 : s'.nextRec = s.nextRec)
    (rd : s'.running = true → s'.disk = []) (nr : s'.running = false → s'.queue = [] ∧ s'.inflight = [] ∧ s'.cur = []) :
    PInv s' :=
  ⟨fun c => by rw [hp, h1, hi.chunks], h2 ▸ h1 ▸ hi.ids, h2 ▸ h3 ▸ h4 ▸ hi.recs, h2 ▸ hi.nonempty, rd, nr⟩

theorem count_lt_succ (c n : Nat) : ((if c < n then 1 else 0) + if c = n then 1 else 0) = if c < n + 1 then 1 else 0 := by
  rcases Nat.lt_trichotomy c n with h | h | h
  · rw [if_pos h, if_neg (Nat.ne_of_lt h), if_pos (Nat.lt_succ_of_lt h)]
  · rw [if_neg (h ▸ Nat.lt_irrefl _), if_pos h, if_pos (h ▸ Nat.lt_succ_self _)]
  · rw [if_neg (Nat.lt_asymm h), if_neg (Nat.ne_of_gt h), if_neg (Nat.not_lt.mpr h)]

theorem PInv.close {s s' : St} (hi : PInv s) (hne : s.cur ≠ []) (hr : s.running = true)
    (hp : ∀ c, (places s').count c = (places s).count c + if c = s.nextChunk then 1 else 0)
    (h1 : s'.nextChunk = (closed s).nextChunk) (h2 : s'.content = (closed s).content) (h3 : s'.cur = [])
    (h4 : s'.nextRec = s.nextRec) (h5 : s'.running = s.running) (h6 : s'.disk = s.disk) : PInv s' := by
  refine ⟨fun c => ?_, ?_, ?_, h2 ▸ forall_mem_snoc hi.nonempty hne, fun _ => h6 ▸ hi.rd hr,
    fun hf => nomatch hr.symm.trans (h5.symm.trans hf)⟩
  · rw [hp, hi.chunks, h1]
    exact count_lt_succ c s.nextChunk
  · rw [h2, h1]
    show (s.content ++ [(s.nextChunk, s.cur)]).map (·.1) = List.range (s.nextChunk + 1)
    rw [List.map_append, hi.ids, List.range_succ]
    rfl
  · rw [h2, h3, h4, ← hi.recs]
    show (s.content ++ [(s.nextChunk, s.cur)]).flatMap (·.2) ++ [] = _
    simp

theorem pinv_park {s : St} (hi : PInv s) (hr : s.running = true) (hc : s.cur = []) : PInv (park s) := by
  refine hi.move (fun d => ?_) rfl rfl rfl rfl (fun hf => nomatch hf) (fun _ => ⟨rfl, rfl, hc⟩)
  simp only [count_places, park, count_sortIds, List.count_append, hi.rd hr, List.count_nil]; omega

theorem step_pinv {s : St} {a : Act} {s' : St} (h : Step s a s') (hi : PInv s) : PInv s' := by
  induction h with
  | read hr =>
    exact { hi with recs := by simp [← hi.recs, List.range_succ], nr := fun hf => nomatch hr.symm.trans hf }
  | flushAccept hr hne | flushDrop hr hne =>
    refine hi.close hne hr (fun c => ?_) rfl rfl rfl rfl rfl rfl
    simp only [count_places, closed, count_snoc_ite]; ac_rfl
  | take hr hq =>
    refine hi.move (fun d => ?_) rfl rfl rfl rfl hi.rd (fun hf => nomatch hr.symm.trans hf)
    simp only [count_places, hq, count_snoc_ite, count_cons_ite]; ac_rfl
  | @ack c hr hc =>
    refine hi.move (fun d => ?_) rfl rfl rfl rfl hi.rd (fun hf => nomatch hr.symm.trans hf)
    have h1 := hi.count_le_one c
    have h2 := List.count_pos_iff.mpr hc
    simp only [count_places, count_snoc_ite, count_filter_ne]
    by_cases hd : d = c
    · subst hd; simp only [if_true]; omega
    · simp only [hd, if_false]; omega
  | @drop c hr hc =>
    refine hi.move (fun d => ?_) rfl rfl rfl rfl hi.rd (fun hf => nomatch hr.symm.trans hf)
    have h1 := hi.count_le_one c
    have h2 : 0 < s.queue.count c + s.inflight.count c := by
      rcases hc with hc | hc
      · have := List.count_pos_iff.mpr hc
        omega
      · have := List.count_pos_iff.mpr hc
        omega
    simp only [count_places, count_snoc_ite, count_filter_ne]
    by_cases hd : d = c
    · subst hd; simp only [if_true]; omega
    · simp only [hd, if_false]; omega
  | connFail hr =>
    refine hi.move (fun d => ?_) rfl rfl rfl rfl hi.rd (fun hf => nomatch hr.symm.trans hf)
    simp only [count_places, count_sortIds, List.count_append, List.count_nil]; ac_rfl
  | stop hr hc => exact pinv_park hi hr hc
  | flushStop h1 ih => cases h1 with | flushAccept hr hne => exact pinv_park ih hr rfl
  | restart hr =>
    obtain ⟨hq, hf, _⟩ := hi.nr hr
    refine hi.move (fun d => ?_) rfl rfl rfl rfl (fun _ => rfl) (fun hf => nomatch hf)
    simp only [count_places, hq, hf, List.count_nil]; ac_rfl

theorem init_pinv : PInv ({} : St) where
  chunks := by intro c; simp [places]
  ids := rfl
  recs := rfl
  nonempty := by intro p hp; simp at hp
  rd := fun _ => rfl
  nr := by intro h; simp at h

end C01

namespace C05
open C01

def ids (l : List (Nat × Nat)) : List Nat := l.map (·.2)

/-- at its first transmission a chunk is newer than everything transmitted before -/
def firstOK : List Nat → List (Nat × Nat) → Prop
  | _, [] => True
  | seen, (_, c) :: r => (c ∈ seen ∨ ∀ c' ∈ seen, c' < c) ∧ firstOK (c :: seen) r

theorem firstOK_append : ∀ (l : List (Nat × Nat)) (seen : List Nat) (m : List (Nat × Nat)),
    firstOK seen (l ++ m) ↔ firstOK seen l ∧ firstOK ((ids l).reverse ++ seen) m
  | [], seen, m => by simp [firstOK, ids]
  | (_, c0) :: r, seen, m => by
    simp only [List.cons_append, firstOK, firstOK_append r (c0 :: seen) m, ids, List.map_cons, List.reverse_cons,
      List.append_assoc, List.nil_append, and_assoc]

theorem onConn_snoc (k k' c : Nat) (l : List (Nat × Nat)) :
    onConn k (l ++ [(k', c)]) = onConn k l ++ (if k' = k then [c] else []) := by
  unfold onConn
  rw [List.filter_append, List.map_append]
  by_cases h : k' = k <;> simp [h]

theorem firstOK_snoc (l : List (Nat × Nat)) (k c : Nat) :
    firstOK [] (l ++ [(k, c)]) ↔ firstOK [] l ∧ (c ∈ ids l ∨ ∀ c' ∈ ids l, c' < c) := by
  simp [firstOK_append, firstOK]

structure OInv (s : St) : Prop where
  sorted : (s.inflight ++ s.queue).Pairwise (· < ·)
  dsorted : s.disk.Pairwise (· < ·)
  bound : ∀ p ∈ s.sentLog, p.2 < s.nextChunk ∧ p.1 ≤ s.conn
  ahead : ∀ c' ∈ onConn s.conn s.sentLog, ∀ q ∈ s.queue, c' < q   -- what waits is newer than what this connection carried
  perConn : ∀ k, (onConn k s.sentLog).Pairwise (· < ·)
  first : firstOK [] s.sentLog
  fresh : ∀ q ∈ s.queue ++ s.disk, q ∈ ids s.sentLog ∨ ∀ c ∈ ids s.sentLog, c < q   -- a waiting chunk was sent before or is newer than all sent
  flown : ∀ c ∈ s.inflight, c ∈ ids s.sentLog   -- what is in flight has been sent

theorem OInv.onConn_next {s : St} (ho : OInv s) : onConn (s.conn + 1) s.sentLog = [] := by
  unfold onConn
  rw [List.map_eq_nil_iff, List.filter_eq_nil_iff]
  intro p hp
  have := (ho.bound p hp).2
  simp; omega

theorem OInv.below {s : St} (ho : OInv s) : ∀ c ∈ ids s.sentLog, c < s.nextChunk := fun _ hc =>
  let ⟨p, hp, e⟩ := List.mem_map.mp hc
  e ▸ (ho.bound p hp).1

theorem OInv.fresh_pending {s : St} (ho : OInv s) :
    ∀ q ∈ (s.inflight ++ s.queue) ++ s.disk, q ∈ ids s.sentLog ∨ ∀ c ∈ ids s.sentLog, c < q :=
  let ⟨fq, fd⟩ := List.forall_mem_append.mp ho.fresh
  List.forall_mem_append.mpr ⟨List.forall_mem_append.mpr ⟨fun q h => .inl (ho.flown q h), fq⟩, fd⟩

theorem oinv_park {s : St} (ho : OInv s) : OInv (park s) := by
  have hd : (park s).disk = s.inflight ++ s.queue := sortIds_of_sorted _ ho.sorted
  refine { ho with sorted := .nil, dsorted := hd ▸ ho.sorted, ahead := fun _ _ _ => nofun, fresh := fun q hq => ?_, flown := nofun }
  rw [hd] at hq
  exact ho.fresh_pending q (List.mem_append_left _ hq)

theorem onConn_sub_ids {k c : Nat} {l : List (Nat × Nat)} (h : c ∈ onConn k l) : c ∈ ids l :=
  let ⟨p, hp, e⟩ := List.mem_map.mp h
  List.mem_map.mpr ⟨p, (List.mem_filter.mp hp).1, e⟩

theorem ids_snoc (l : List (Nat × Nat)) (k c : Nat) : ids (l ++ [(k, c)]) = ids l ++ [c] := List.map_append

theorem step_oinv {s : St} {a : Act} {s' : St} (h : Step s a s') (hp : PInv s) (ho : OInv s) : OInv s' := by
  have up : ∀ p ∈ s.sentLog, p.2 < s.nextChunk + 1 ∧ p.1 ≤ s.conn := fun p h =>
    ⟨Nat.lt_succ_of_lt (ho.bound p h).1, (ho.bound p h).2⟩
  have nx : ∀ p ∈ s.sentLog, p.2 < s.nextChunk ∧ p.1 ≤ s.conn + 1 := fun p h =>
    ⟨(ho.bound p h).1, Nat.le_succ_of_le (ho.bound p h).2⟩
  obtain ⟨fq, fd⟩ := List.forall_mem_append.mp ho.fresh
  induction h with
  | read hr => exact { ho with }
  | flushAccept hr hne =>
    -- the new id is above everything queued, in flight or ever sent
    have hlt : ∀ c ∈ s.inflight ++ s.queue, c < s.nextChunk := fun c hc =>
      hp.lt_of_mem (by simp only [places, List.mem_append] at hc ⊢; rcases hc with h | h <;> simp [h])
    exact { ho with
      sorted := List.append_assoc .. ▸ pairwise_lt_snoc ho.sorted hlt, bound := up,
      ahead := fun c' hc' => forall_mem_snoc (ho.ahead c' hc') (ho.below c' (onConn_sub_ids hc')),
      fresh := List.forall_mem_append.mpr ⟨forall_mem_snoc fq (.inr ho.below), fd⟩ }
  | flushDrop hr hne => exact { ho with bound := up }
  | @take c rest hr hq =>
    have hsorted := ho.sorted
    rw [hq] at hsorted fq
    have hcrest : ∀ q ∈ rest, c < q := (List.pairwise_cons.mp (List.pairwise_append.mp hsorted).2.1).1
    have hold : ∀ c' ∈ onConn s.conn s.sentLog, c' < c := fun c' hc' => ho.ahead c' hc' c (hq ▸ List.mem_cons_self)
    obtain ⟨fc, frest⟩ := List.forall_mem_cons.mp fq
    -- first transmission of `c`: it was queued, so `fresh` says it was sent before or is above everything sent
    refine ⟨by simpa [List.append_assoc] using hsorted, ho.dsorted,
      forall_mem_snoc ho.bound ⟨hp.lt_of_mem (by simp [places, hq]), Nat.le_refl _⟩, ?_, fun k => ?_,
      (firstOK_snoc ..).mpr ⟨ho.first, fc⟩, ?_, ?_⟩
    · rw [onConn_snoc, if_pos rfl]
      exact forall_mem_snoc (fun c' h1 q hq' => ho.ahead c' h1 q (hq ▸ List.mem_cons_of_mem _ hq')) hcrest
    · rw [onConn_snoc]
      split
      · rename_i hk
        subst hk
        exact pairwise_lt_snoc (ho.perConn _) hold
      · rw [List.append_nil]
        exact ho.perConn k
    · rw [hp.rd hr, List.append_nil, ids_snoc]
      exact fun q hq' => (frest q hq').imp (List.mem_append_left _) fun h => forall_mem_snoc h (hcrest q hq')
    · rw [ids_snoc]
      exact forall_mem_snoc (fun d hd => List.mem_append_left _ (ho.flown d hd)) (List.mem_append_right _ List.mem_cons_self)
  | ack hr hc =>
    exact { ho with sorted := ho.sorted.sublist (List.filter_sublist.append (List.Sublist.refl _)),
                    flown := fun d hd => ho.flown d (List.mem_filter.mp hd).1 }
  | drop hr hc =>
    exact { ho with sorted := ho.sorted.sublist (List.filter_sublist.append List.filter_sublist),
                    ahead := fun c' hc' q hq => ho.ahead c' hc' q (List.mem_filter.mp hq).1,
                    fresh := fun q hq => ho.fresh q ((List.filter_sublist.append (.refl _)).subset hq),
                    flown := fun d hd => ho.flown d (List.mem_filter.mp hd).1 }
  | connFail hr =>
    have hq : sortIds (s.inflight ++ s.queue) = s.inflight ++ s.queue := sortIds_of_sorted _ ho.sorted
    refine { ho with sorted := ?_, bound := nx, ahead := fun c' hc' => ?_, fresh := ?_, flown := nofun }
    · rw [hq]
      exact ho.sorted
    · -- the connection number is new: nothing was sent on it
      rw [ho.onConn_next] at hc'
      cases hc'
    · rw [hq]
      exact ho.fresh_pending
  | stop hr hc => exact oinv_park ho
  | flushStop h1 ih => exact oinv_park ih
  | restart hr =>
    obtain ⟨_, hf, _⟩ := hp.nr hr
    refine { ho with sorted := ?_, dsorted := .nil, bound := nx, ahead := fun c' hc' => ?_,
                     fresh := fun q hq => ho.fresh q (List.mem_append_right _ (by simpa using hq)), flown := fun d hd => ?_ }
    · rw [hf]
      exact ho.dsorted
    · rw [ho.onConn_next] at hc'
      cases hc'
    · rw [hf] at hd
      cases hd

theorem init_oinv : OInv ({} : St) :=
  ⟨.nil, .nil, nofun, nofun, fun _ => .nil, trivial, nofun, nofun⟩

end C05

namespace E2E
open C01 C05

theorem reach {acts : List Act} {s : St} (h : run {} acts = some s) : PInv s ∧ OInv s :=
  runOpt_inv (P := fun s => PInv s ∧ OInv s)
    (fun hs hi => ⟨step_pinv (.of_step hs) hi.1, step_oinv (.of_step hs) hi.1 hi.2⟩)
    (run_eq_runOpt ▸ h) ⟨init_pinv, init_oinv⟩

end E2E
