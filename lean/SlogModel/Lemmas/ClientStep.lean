import SlogModel.Model.Client
import SlogModel.Lemmas.Run

/-!
  `Client.step` as a relation: one rule per enabled branch of `step`, the guards as hypotheses, the state after the action
  written out.  The three actions that enter `collectLeftovers` share a rule, as do the two that end an idle acknowledger;
  `ackOk` has one rule for an ACK that confirms a chunk and one for an ACK with an unknown id.  After the rules: runs
  (`run` is `runOpt step`; what every rule preserves holds after every run), and the plan `endSession` that ends a session from
  any state, with what it leaves alone (`Untouched`) and where it puts what the session held (`endSession_run`).
-/

namespace Client

/-- the session after the sender entered `collectLeftovers` (pushStop / pushAckEnded / beginCollect / sendErr): the leftovers
not yet resent move from `left` into `collecting`; once the recovery stage is over there are none -/
def Sess.collect (x : Sess) (left : List Nat) : Sess :=
  { x with collecting := some (if x.normal then [] else left), chanClosed := true }

inductive Step (s : St) : Act → St → Prop
  | stopReq (hf : s.finished = false) : Step s .stopReq { s with stop := true }
  | connectOk (hs : s.sess = none) (hf : s.finished = false) :
      Step s .connectOk { s with sess := some { conn := s.nextConn }, nextConn := s.nextConn + 1 }
  | connectFail (hs : s.sess = none) (hf : s.finished = false) : Step s .connectFail s
  | takeLeft {x c rest} (hs : s.sess = some x) (hl : s.left = c :: rest)
      (hn : x.normal = false) (hc : x.lastC = none) (hcol : x.collecting = none) :
      Step s .takeLeft { s with left := rest, sess := some { x with lastC := some c } }
  | recoveryDone {x} (hs : s.sess = some x) (hl : s.left = [])
      (hn : x.normal = false) (hc : x.lastC = none) (hcol : x.collecting = none) :
      Step s .recoveryDone { s with sess := some { x with normal := true } }
  | takeInput {x c rest} (hs : s.sess = some x) (hq : s.queue = c :: rest)
      (hn : x.normal = true) (hc : x.lastC = none) (hcol : x.collecting = none) :
      Step s .takeInput { s with queue := rest, taken := s.taken ++ [c], sess := some { x with lastC := some c } }
  | sendOk {x c} (hs : s.sess = some x) (hc : x.lastC = some c)
      (hso : x.sentOk = false) (hcc : x.connClosed = false) (hcol : x.collecting = none) :
      Step s .sendOk { s with sess := some { x with sentOk := true }, hist := s.hist ++ [.sendOk x.conn c] }
  | sendErr {x c} (hs : s.sess = some x) (hc : x.lastC = some c) (hso : x.sentOk = false) (hcol : x.collecting = none) :
      Step s .sendErr { s with sess := some (x.collect s.left), left := if x.normal then s.left else [],
                               hist := s.hist ++ [.sendErr x.conn c] }
  | pushAck {x c} (hs : s.sess = some x) (hc : x.lastC = some c)
      (hso : x.sentOk = true) (hcap : x.ackChan.length < ackCap) (hcol : x.collecting = none) :
      Step s .pushAck { s with sess := some { x with ackChan := x.ackChan ++ [c], lastC := none, sentOk := false } }
  | collect {x a} (hs : s.sess = some x) (hcol : x.collecting = none)
      (ha : a = .pushStop ∨ a = .pushAckEnded ∨ a = .beginCollect) :
      Step s a { s with sess := some (x.collect s.left), left := if x.normal then s.left else [] }
  | escalate {x prev} (hs : s.sess = some x) (hcol : x.collecting = some prev) :
      Step s .escalate { s with sess := some { x with abort := true, connClosed := true } }
  | ackRecv {x c rest} (hs : s.sess = some x) (hch : x.ackChan = c :: rest)
      (he : x.ackEnded = false) (hcur : x.ackCur = none) :
      Step s .ackRecv { s with sess := some { x with ackChan := rest, pending := x.pending ++ [c], ackCur := some c } }
  | ackEnd {x a} (hs : s.sess = some x) (he : x.ackEnded = false) (hcur : x.ackCur = none)
      (ha : a = .ackChanClosed ∧ x.chanClosed = true ∧ x.ackChan = [] ∨ a = .ackAbort ∧ x.abort = true) :
      Step s a { s with sess := some { x with ackEnded := true } }
  | ackOk {x cur id t} (hs : s.sess = some x) (hcur : x.ackCur = some cur) (hcc : x.connClosed = false)
      (ht : id = none ∧ t = cur ∨ id = some t ∧ t ∈ x.pending) :
      Step s (.ackOk id) { s with sess := some { x with ackCur := none, pending := x.pending.erase t },
                                  confirmed := s.confirmed ++ [t], hist := s.hist ++ [.ack x.conn id, .consumed t] }
  | ackUnknown {x cur i} (hs : s.sess = some x) (hcur : x.ackCur = some cur) (hcc : x.connClosed = false)
      (hi : i ∉ x.pending) :
      Step s (.ackOk (some i)) { s with sess := some { x with ackCur := none }, hist := s.hist ++ [.ack x.conn (some i)] }
  | ackErr {x cur} (hs : s.sess = some x) (hcur : x.ackCur = some cur) :
      Step s .ackErr { s with sess := some { x with ackCur := none, ackEnded := true }, hist := s.hist ++ [.ackErr x.conn] }
  | finishCollect {x prev} (hs : s.sess = some x) (hcol : x.collecting = some prev) (he : x.ackEnded = true) :
      Step s .finishCollect { s with sess := none, left := newLeft (prev ++ x.ackChan ++ x.pending ++ x.lastC.toList) }
  | workerFinal (hs : s.sess = none) (hstop : s.stop = true) (hf : s.finished = false) :
      Step s .workerFinal { s with handed := s.handed ++ s.left, left := [], finished := true,
                                   hist := s.hist ++ s.left.map .leftover ++ [.finished] }

theorem Step.of_step {s s' : St} {a : Act} (h : step s a = some s') : Step s a s' := by
  revert h
  -- one goal per enabled branch of `step`, in the order of its definition, guards in the context
  fun_cases step s a <;> intro h <;> cases h
  next hf => exact .stopReq (by simpa using hf)
  next hs hf => exact .connectOk hs (by simpa using hf)
  next hg => simp at hg; exact .connectFail hg.1 hg.2
  next hl hs hg => simp at hg; exact .takeLeft hs hl hg.1 hg.2.1 hg.2.2
  next hs hg => simp at hg; exact .recoveryDone hs hg.2.2.2 hg.1 hg.2.1 hg.2.2.1
  next hq hs hg => simp at hg; exact .takeInput hs hq hg.1 hg.2.1 hg.2.2
  next hs _ hc hg => simp at hg; exact .sendOk hs hc hg.1 hg.2.1 hg.2.2
  next hs _ hc hg _ => simp at hg; exact .sendErr hs hc hg.1 hg.2
  next hs _ hc hg => simp at hg; exact .pushAck hs hc hg.1 hg.2.1 hg.2.2
  next hs hg _ => exact .collect hs (by simpa using hg) (by simp)
  next hs hg _ => exact .collect hs (by simpa using hg) (by simp)
  next hs hg _ => exact .collect hs (by simpa using hg) (by simp)
  next hs hg =>
    obtain ⟨prev, hcol⟩ := Option.ne_none_iff_exists'.mp (by simpa using hg)
    exact .escalate hs hcol
  next hs _ _ hch hg => simp at hg; exact .ackRecv hs hch hg.1 hg.2
  next hs hg => simp at hg; exact .ackEnd hs hg.1 hg.2.1 (.inl ⟨rfl, hg.2.2.1, hg.2.2.2⟩)
  next hs hg => simp at hg; exact .ackEnd hs hg.1 hg.2.1 (.inr ⟨rfl, hg.2.2⟩)
  next id x hs cur hcur hcc target t ht x' =>
    cases id with
    | none => cases (show some cur = some t from ht); exact .ackOk hs hcur (by simpa using hcc) (.inl ⟨rfl, rfl⟩)
    | some i =>
      by_cases hi : i ∈ x.pending <;> simp [target, hi] at ht
      subst ht; exact .ackOk hs hcur (by simpa using hcc) (.inr ⟨rfl, hi⟩)
  next id x hs cur hcur hcc target ht =>
    cases id with
    | none => cases (show some cur = none from ht)
    | some i =>
      by_cases hi : i ∈ x.pending <;> simp [target, hi] at ht
      exact .ackUnknown hs hcur (by simpa using hcc) hi
  next hs _ hcur _ => exact .ackErr hs hcur
  next hs _ hcol hg => exact .finishCollect hs hcol (by simpa using hg)
  next hg => simp at hg; exact .workerFinal hg.1 hg.2.1 hg.2.2

theorem Step.to_step {s s' : St} {a : Act} (h : Step s a s') : step s a = some s' := by
  cases h
  case collect hs hcol ha => rcases ha with rfl | rfl | rfl <;> simp [step, hs, hcol, Sess.collect]
  case ackEnd hs he hcur ha => rcases ha with ⟨rfl, h1, h2⟩ | ⟨rfl, h1⟩ <;> simp [step, *]
  case ackOk hs hcur hcc ht => rcases ht with ⟨rfl, rfl⟩ | ⟨rfl, hp⟩ <;> simp [step, *]
  all_goals simp [step, Sess.collect, *]

theorem run_eq_runOpt : run = runOpt step :=
  runOpt_unique (fun _ => rfl) (fun s a as => by rw [run]; cases step s a <;> rfl)

theorem run_inv_of_step {P : St → Prop} (hstep : ∀ {s a s'}, Step s a s' → P s → P s') {s s' : St} {acts : List Act}
    (h : run s acts = some s') (hp : P s) : P s' :=
  runOpt_inv (fun hs => hstep (.of_step hs)) (run_eq_runOpt ▸ h) hp

theorem run_trans {s s1 s2 : St} {a b : List Act} (h1 : run s a = some s1) (h2 : run s1 b = some s2) :
    run s (a ++ b) = some s2 := by
  rw [run_eq_runOpt] at *; exact runOpt_trans h1 h2

theorem run_step {s s1 s2 : St} {a : Act} {as : List Act} (h1 : Step s a s1) (h2 : run s1 as = some s2) :
    run s (a :: as) = some s2 := by
  rw [run, h1.to_step]; exact h2

theorem run_one {s s' : St} {a : Act} (h : Step s a s') : run s [a] = some s' := run_step h rfl

/-- the frame of the plans below: what neither ending a session nor delivering the leftovers writes -/
structure Untouched (s s' : St) : Prop where
  queue : s'.queue = s.queue
  taken : s'.taken = s.taken
  handed : s'.handed = s.handed
  finished : s'.finished = s.finished
  stop : s'.stop = s.stop

theorem Untouched.refl (s : St) : Untouched s s := ⟨rfl, rfl, rfl, rfl, rfl⟩

theorem Untouched.trans {s s1 s2 : St} (h1 : Untouched s s1) (h2 : Untouched s1 s2) : Untouched s s2 :=
  ⟨h2.queue.trans h1.queue, h2.taken.trans h1.taken, h2.handed.trans h1.handed, h2.finished.trans h1.finished,
    h2.stop.trans h1.stop⟩

/-- the actions that end a session: enter `collectLeftovers`, end the acknowledger (its pending ACK read fails, or it is
aborted while idle), merge what was not acknowledged -/
def endSession (x : Sess) : List Act :=
  (if x.collecting.isNone then [Act.beginCollect] else []) ++
  (if x.ackEnded then [] else if x.ackCur.isSome then [Act.ackErr] else [Act.escalate, Act.ackAbort]) ++
  [Act.finishCollect]

theorem endSession_length (x : Sess) : (endSession x).length ≤ 4 := by
  cases hc : x.collecting.isNone <;> cases he : x.ackEnded <;> cases ha : x.ackCur.isSome <;> simp [endSession, hc, he, ha]

theorem endSession_run (s : St) (x : Sess) (hs : s.sess = some x) :
    ∃ s', run s (endSession x) = some s' ∧ s'.sess = none ∧
      s'.left = newLeft (x.collecting.getD (if x.normal then [] else s.left) ++ x.ackChan ++ x.pending ++ x.lastC.toList) ∧
      s'.confirmed = s.confirmed ∧ Untouched s s' := by
  obtain ⟨queue, left, sess, confirmed, handed, taken, stop, finished, nextConn, hist⟩ := s
  cases hs
  obtain ⟨conn, normal, lastC, sentOk, ackChan, chanClosed, ackCur, pending, ackEnded, abort, connClosed, collecting⟩ := x
  cases collecting <;> cases ackEnded <;> cases ackCur <;> simp [endSession, run, step] <;> exact ⟨rfl, rfl, rfl, rfl, rfl⟩

end Client
