import SlogModel.Model.Pool
import SlogModel.Lemmas.Assoc
import SlogModel.Lemmas.Run

/-!
  `Pool.step` as a relation with its three shapes: a record is handed out, changed in place, or recycled.
  `lookup` and `remove` are `Assoc.get` and `Assoc.del`.
-/

namespace Pool

theorem lookup_cons (p : Nat × Rec) (l : List (Nat × Rec)) (h : Nat) :
    lookup (p :: l) h = if p.1 = h then some p.2 else lookup l h := Assoc.get_cons p l h

theorem lookup_remove (l : List (Nat × Rec)) (k h : Nat) : lookup (remove l k) h = if h = k then none else lookup l h :=
  Assoc.get_del l k h

theorem remove_cons (p : Nat × Rec) (l : List (Nat × Rec)) (h : Nat) :
    remove (p :: l) h = if p.1 = h then remove l h else p :: remove l h := Assoc.del_cons p l h

theorem lookup_snoc_new {l : List (Nat × Rec)} {h : Nat} (r : Rec) (hn : lookup l h = none) : lookup (l ++ [(h, r)]) h = some r :=
  (Assoc.get_snoc l h h r).trans (by rw [show Assoc.get l h = none from hn, if_pos rfl]; rfl)

theorem mem_update {l : List (Nat × Rec)} {h : Nat} {r : Rec} {p : Nat × Rec} (hp : p ∈ update l h r) : p ∈ l ∨ p = (h, r) := by
  obtain ⟨q, hq, rfl⟩ := List.mem_map.mp hp
  by_cases e : q.1 = h
  · simp [e]
  · simp [e, hq]

theorem update_cons (p : Nat × Rec) (l : List (Nat × Rec)) (h : Nat) (r : Rec) :
    update (p :: l) h r = (if p.1 = h then (h, r) else p) :: update l h r := rfl

theorem update_not_mem : ∀ {l : List (Nat × Rec)} {h : Nat} (r : Rec), h ∉ l.map (·.1) → update l h r = l
  | [], _, _, _ => rfl
  | p :: l, h, r, hn => by
    rw [List.map_cons, List.mem_cons, not_or] at hn
    rw [update_cons, if_neg (fun e => hn.1 e.symm), update_not_mem r hn.2]

theorem map_fst_update (l : List (Nat × Rec)) (h : Nat) (r : Rec) : (update l h r).map (·.1) = l.map (·.1) := by
  rw [update, List.map_map]
  refine List.map_congr_left fun p _ => ?_
  by_cases e : p.1 = h <;> simp [e]

theorem lookup_update_self : ∀ {l : List (Nat × Rec)} {h : Nat} {r : Rec} (r' : Rec), lookup l h = some r → lookup (update l h r') h = some r'
  | [], _, _, _, hl => nomatch hl
  | p :: l, h, r, r', hl => by
    rw [lookup_cons] at hl
    rw [update_cons, lookup_cons]
    by_cases e : p.1 = h
    · rw [if_pos e, if_pos rfl]
    · rw [if_neg e] at hl ⊢; rw [if_neg e]; exact lookup_update_self r' hl

theorem liveBufs_cons (p : Nat × Rec) (l : List (Nat × Rec)) : liveBufs (p :: l) = p.2.backbuf.toList ++ liveBufs l := by
  rw [liveBufs, List.filterMap_cons]; cases p.2.backbuf <;> rfl

theorem liveBufs_update : ∀ {l : List (Nat × Rec)} {h : Nat} {r r' : Rec}, (l.map (·.1)).Nodup → lookup l h = some r →
    r'.backbuf = r.backbuf → liveBufs (update l h r') = liveBufs l
  | [], _, _, _, _, hl, _ => nomatch hl
  | p :: l, h, r, r', hn, hl, hb => by
    rw [lookup_cons] at hl
    rw [List.map_cons, List.nodup_cons] at hn
    rw [update_cons, liveBufs_cons, liveBufs_cons]
    by_cases e : p.1 = h
    · rw [if_pos e] at hl ⊢; cases hl
      rw [update_not_mem r' (e ▸ hn.1), hb]
    · rw [if_neg e] at hl ⊢
      rw [liveBufs_update hn.2 hl hb]

theorem count_liveBufs_remove : ∀ {l : List (Nat × Rec)} {h : Nat} {r : Rec}, (l.map (·.1)).Nodup → lookup l h = some r →
    ∀ x, (liveBufs l).count x = r.backbuf.toList.count x + (liveBufs (remove l h)).count x
  | [], _, _, _, hl, _ => nomatch hl
  | p :: l, h, r, hn, hl, x => by
    rw [lookup_cons] at hl
    rw [List.map_cons, List.nodup_cons] at hn
    rw [liveBufs_cons, remove_cons, List.count_append]
    by_cases e : p.1 = h
    · rw [if_pos e] at hl ⊢; cases hl
      rw [show remove l h = l from Assoc.del_of_not_mem (e ▸ hn.1)]
    · rw [if_neg e] at hl ⊢
      rw [liveBufs_cons, List.count_append, count_liveBufs_remove hn.2 hl x]; omega

/-- what `sync.Pool.Get` returns for `src`, and the pool it leaves -/
inductive Got (s : St) : Option Nat → Rec → List (Nat × Rec) → Prop
  | fresh : Got s none (fresh s.nFields) s.pool
  | pooled {p r} (h : lookup s.pool p = some r) : Got s (some p) r (remove s.pool p)

theorem Got.sublist {s : St} {src : Option Nat} {r : Rec} {pool' : List (Nat × Rec)} (hg : Got s src r pool') :
    pool'.Sublist s.pool := by
  cases hg with
  | fresh => exact .refl _
  | pooled h => exact List.filter_sublist

/-- the operations that change the handed-out record `r` with handle `h` in place -/
inductive Mod (h : Nat) (r : Rec) : Op → Rec → Prop
  | set {i v} (hi : i < r.fields.length) : Mod h r (.set h i v) { r with fields := r.fields.set i v }
  | hdr {raw ts unesc} : Mod h r (.hdr h raw ts unesc) { r with rawLength := raw, tsSet := ts, unescaped := unesc }
  | release (hc : 0 < r.refCount - 1) : Mod h r (.release h) { r with refCount := r.refCount - 1 }

theorem Mod.frame {h : Nat} {r r' : Rec} {o : Op} (m : Mod h r o r') :
    r'.backbuf = r.backbuf ∧ (0 < r.refCount → 0 < r'.refCount) := by
  cases m with
  | set hi => exact ⟨rfl, id⟩
  | hdr => exact ⟨rfl, id⟩
  | release hc => exact ⟨rfl, fun _ => hc⟩

inductive Step (s : St) : Op → St → Prop
  | new {h src buf bp r pool'} (hfree : lookup s.live h = none) (hb : takeBuf s buf = some bp) (hg : Got s src r pool') :
      Step s (.new h src buf)
        { s with pool := pool', bufPool := bp,
                 live := s.live ++ [(h, { r with refCount := r.refCount + s.outputs, backbuf := buf })] }
  | modify {h r o r'} (hl : lookup s.live h = some r) (m : Mod h r o r') : Step s o { s with live := update s.live h r' }
  | recycle {h r} (hl : lookup s.live h = some r) (hc : r.refCount - 1 = 0) :
      Step s (.release h)
        { s with live := remove s.live h, pool := s.pool ++ [(h, cleared { r with refCount := 0 })],
                 bufPool := s.bufPool ++ r.backbuf.toList }

theorem Step.of_step {s : St} {o : Op} {s' : St} (h : step s o = some s') : Step s o s' := by
  -- one goal per enabled branch of `step`, in its order, with the guards in context
  revert h
  fun_cases step s o <;> intro h <;> cases h
  next hfree _ hb =>
    -- a new record has count 0: `outputs` is `0 + outputs`
    simpa [fresh] using Step.new (by simpa using hfree) hb (Got.fresh (s := s))
  next hfree _ hb _ _ hp => exact .new (by simpa using hfree) hb (.pooled hp)
  next hl hi => exact .modify hl (.set hi)
  next hl => exact .modify hl .hdr
  next hl _ _ hc => exact .modify hl (.release hc)
  next hl c h0 h1 => exact .recycle hl (by omega)

theorem step_release_more {s : St} {h : Nat} {r : Rec} (hl : lookup s.live h = some r) (hc : 0 < r.refCount - 1) :
    step s (.release h) = some { s with live := update s.live h { r with refCount := r.refCount - 1 } } := by
  simp only [step, hl]
  rw [if_neg (by omega), if_pos hc]

theorem step_release_last {s : St} {h : Nat} {r : Rec} (hl : lookup s.live h = some r) (hc : r.refCount - 1 = 0) :
    step s (.release h) = some { s with live := remove s.live h, pool := s.pool ++ [(h, cleared { r with refCount := 0 })],
                                        bufPool := s.bufPool ++ r.backbuf.toList } := by
  simp only [step, hl]
  rw [if_neg (by omega), if_neg (by omega)]

theorem Step.outputs {s : St} {o : Op} {s' : St} (h : Step s o s') : s'.outputs = s.outputs := by
  cases h <;> rfl

theorem run_eq_runOpt : run = runOpt step :=
  runOpt_unique (fun _ => rfl) (fun s a as => by rw [run]; cases step s a <;> rfl)

theorem run_inv_of_step {P : St → Prop} (hstep : ∀ {s o s'}, Step s o s' → P s → P s') {s s' : St} {ops : List Op}
    (h : run s ops = some s') (hp : P s) : P s' :=
  runOpt_inv (fun hs => hstep (.of_step hs)) (run_eq_runOpt ▸ h) hp

end Pool
