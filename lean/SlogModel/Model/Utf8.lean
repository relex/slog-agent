import SlogModel.Basic

/-!
  M_utf8 — Go's `utf8` validity (as used by `strings.ToValidUTF8(s, "")`) and `util.CleanUTF8`.
-/

namespace Utf8

def isCont (b : Nat) : Bool := 128 ≤ b && b ≤ 191

/-- width of the valid rune encoding at the head of `s`; 0 if there is none (Go: `RuneError`, width 1) -/
def runeWidth : Bytes → Nat
  | [] => 0
  | b0 :: rest =>
    if b0 < 128 then 1
    else if 194 ≤ b0 && b0 ≤ 223 then
      match rest with
      | b1 :: _ => if isCont b1 then 2 else 0
      | _ => 0
    else if 224 ≤ b0 && b0 ≤ 239 then
      match rest with
      | b1 :: b2 :: _ =>
        if (if b0 = 224 then 160 else 128) ≤ b1 && b1 ≤ (if b0 = 237 then 159 else 191) && isCont b2 then 3 else 0
      | _ => 0
    else if 240 ≤ b0 && b0 ≤ 244 then
      match rest with
      | b1 :: b2 :: b3 :: _ =>
        if (if b0 = 240 then 144 else 128) ≤ b1 && b1 ≤ (if b0 = 244 then 143 else 191) && isCont b2 && isCont b3
        then 4 else 0
      | _ => 0
    else 0

/-- `strings.ToValidUTF8(s, "")`: keep valid runes, drop every other byte. `fuel ≥ s.length`. -/
def toValidAux : Nat → Bytes → Bytes
  | 0, _ => []
  | _ + 1, [] => []
  | fuel + 1, b :: rest =>
    let w := runeWidth (b :: rest)
    if w = 0 then toValidAux fuel rest
    else (b :: rest).take w ++ toValidAux fuel ((b :: rest).drop w)

def toValid (s : Bytes) : Bytes := toValidAux s.length s

/-- tail-recursive form used by the driver on long inputs -/
def toValidTRAux : Nat → Bytes → Bytes → Bytes
  | 0, _, acc => acc.reverse
  | _ + 1, [], acc => acc.reverse
  | fuel + 1, b :: rest, acc =>
    let w := runeWidth (b :: rest)
    if w = 0 then toValidTRAux fuel rest acc
    else toValidTRAux fuel ((b :: rest).drop w) (((b :: rest).take w).reverse ++ acc)

def toValidTR (s : Bytes) : Bytes := toValidTRAux s.length s []

theorem toValidTRAux_eq (fuel : Nat) (s acc : Bytes) :
    toValidTRAux fuel s acc = acc.reverse ++ toValidAux fuel s := by
  fun_induction toValidTRAux fuel s acc with
  | case1 | case2 => simp [toValidAux]
  | case3 fuel b rest acc w hw ih => rw [ih, toValidAux]; exact congrArg _ (if_pos hw).symm
  | case4 fuel b rest acc w hw ih =>
    rw [ih, toValidAux, List.reverse_append, List.reverse_reverse, List.append_assoc]
    exact congrArg _ (if_neg hw).symm

theorem toValidTR_eq (s : Bytes) : toValidTR s = toValid s := by
  simp [toValidTR, toValid, toValidTRAux_eq]

/-- valid UTF-8: consists of valid rune encodings only -/
def validAux : Nat → Bytes → Bool
  | 0, s => s.isEmpty
  | _ + 1, [] => true
  | fuel + 1, b :: rest =>
    let w := runeWidth (b :: rest)
    if w = 0 then false else validAux fuel ((b :: rest).drop w)

def valid (s : Bytes) : Bool := validAux s.length s

/-- `findLastEndOfASCII`: index just after the last byte ≤ 0x7F, 0 if there is none -/
def lastAsciiEnd (s : Bytes) : Nat :=
  let rec go : Bytes → Nat → Nat → Nat
    | [], _, best => best
    | b :: r, i, best => go r (i + 1) (if b ≤ 127 then i + 1 else best)
  go s 0 0

/-- `util.CleanUTF8` -/
def clean (s : Bytes) : Bytes :=
  let e := lastAsciiEnd s
  s.take e ++ toValidTR (s.drop e)

end Utf8
