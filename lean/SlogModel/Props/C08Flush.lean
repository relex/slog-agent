import SlogModel.Model.FlushPolicy
import SlogModel.Gen.Facts

/-!
  C08 (flush policy) — when the listener flushes a connection's framer.

  * `C08_timeout_means_idle`, `C08_idle_ticks_after_pause` : a flush after a read timeout follows an
      idle period of at least the flush interval `m`.
  * `C08_renewal_flushes_bounded` : flushes "for deadline update" (which can cut a multi-line record
      although the sender did not pause) number at most one per flush interval of connection lifetime,
      plus one.
  * `consistent_of_renew` : the observer's check of a real `Read` accepts every behaviour of the model.
-/

namespace C08
open FlushPolicy

theorem renew_cases (m D now : Int) :
    (D - now < m ∧ renew m D now = now + 2 * m) ∨ (m ≤ D - now ∧ renew m D now = D) := by
  unfold renew
  split
  · exact .inl ⟨‹_›, rfl⟩
  · exact .inr ⟨by omega, rfl⟩

/-- **C08 (a read timeout means a flush pause).** A read that times out was entered at least `m`
before its deadline: nothing arrived for at least the flush interval (and at most `2·m`, unless an
older deadline was still further away). -/
theorem C08_timeout_means_idle (m D now : Int) (hm : 0 ≤ m) :
    renew m D now - now ≥ m ∧ (renew m D now = D ∨ renew m D now = now + 2 * m) := by
  rcases renew_cases m D now with ⟨h, e⟩ | ⟨h, e⟩
  · exact ⟨by omega, .inr e⟩
  · exact ⟨by omega, .inl e⟩

theorem renewals_append (a b : List Tick) : renewals (a ++ b) = renewals a + renewals b := by
  simp [renewals]


/-- a renewal the listener has not flushed for yet (none before it has remembered a first deadline) -/
def owed (s : St) : Nat := if s.prev = none ∨ s.prev = some s.D then 0 else 1

/-- Every renewal flush, and a renewal not yet flushed for, is paid for by a deadline change; `c > 0` changes put the deadline at
least `(c+1)·m` after the first entry time and at most `2·m` after the last one. -/
structure FInv (m fst last : Int) (s : St) : Prop where
  le : fst ≤ last
  paid : renewals s.ticks + owed s ≤ s.changes
  -- before the first read `D` is the zero time
  win : s.changes ≠ 0 → fst + ((s.changes : Int) + 1) * m ≤ s.D ∧ s.D ≤ last + 2 * m

theorem stepW_finv {m fst last now : Int} {s : St} (hl : last ≤ now) (h : FInv m fst last s) :
    FInv m fst now (stepW m s now) := by
  obtain ⟨le, paid, win⟩ := h
  have le' := Int.le_trans le hl
  unfold stepW
  by_cases hch : renew m s.D now = s.D
  · simp only [hch, if_true]
    exact ⟨le', paid, fun hc => ⟨(win hc).1, Int.le_trans (win hc).2 (Int.add_le_add_right hl _)⟩⟩
  · -- a changed deadline is `now + 2·m`, more than `m` after the old one: it pays for one more change
    obtain ⟨hlt, e⟩ := (renew_cases m s.D now).resolve_right fun h => hch h.2
    simp only [hch, if_false]
    refine ⟨le', ?_, fun _ => ⟨?_, Int.le_of_eq e⟩⟩
    · show renewals s.ticks + owed _ ≤ s.changes + 1
      unfold owed at paid ⊢
      split <;> omega
    · show fst + (((s.changes + 1 : Nat) : Int) + 1) * m ≤ renew m s.D now
      rw [e, show ((s.changes + 1 : Nat) : Int) + 1 = ((s.changes : Int) + 1) + 1 by omega, Int.add_mul]
      clear paid hch e   -- keeps omega's context small
      by_cases hc : s.changes = 0
      · rw [hc]; omega
      · have := (win hc).1; omega

theorem stepL_finv {m fst last : Int} {s : St} (e : Ev) (h : FInv m fst last s) : FInv m fst last (stepL s e) := by
  obtain ⟨le, paid, win⟩ := h
  unfold owed at paid
  -- the branches of `stepL` in its order: a timeout; the first deadline remembered; deadline unchanged; a renewal flush
  fun_cases stepL s e
  · exact ⟨le, by simpa [renewals_append, renewals, owed] using paid, win⟩
  · exact ⟨le, by simp_all [owed], win⟩
  · exact ⟨le, paid, win⟩
  · rename_i p hp hne
    refine ⟨le, ?_, win⟩
    simp only [hp, Option.some.injEq, reduceCtorEq, false_or, if_neg (Ne.symm hne)] at paid
    simpa [renewals_append, renewals, owed] using paid

theorem run_finv {m fst : Int} : ∀ (es : List Ev) {last : Int} {s : St}, Mono last es →
    FInv m fst last s → FInv m fst (endTime last es) (run m s es)
  | [], _, _, _, h => h
  | e :: r, _, _, hmono, h => run_finv r hmono.2 (stepL_finv e (stepW_finv hmono.1 h))

theorem FInv.bound {m fst last : Int} {s : St} (hm : 0 < m) (h : FInv m fst last s) :
    (renewals s.ticks : Int) * m ≤ (last - fst) + m := by
  -- every renewal flush is paid for by a change, and `c` changes fit the window: `f·m ≤ c·m ≤ last − first + m`
  obtain ⟨le, paid, win⟩ := h
  have hf : (renewals s.ticks : Int) ≤ s.changes := by omega
  have h2 : (renewals s.ticks : Int) * m ≤ (s.changes : Int) * m := Int.mul_le_mul_of_nonneg_right hf (by omega)
  by_cases hc : s.changes = 0
  · rw [hc] at h2; omega
  · have h1 := win hc
    rw [Int.add_mul] at h1
    omega

/-- **C08 (flushes without a pause are rare).** On a connection whose reads are entered at
non-decreasing times, the number `f` of flushes "for deadline update" — the only flush ticks that do
not follow an idle period of at least `m` — satisfies `f·m ≤ (last − first) + m`: at most one per
flush interval of connection lifetime, plus one. -/
theorem C08_renewal_flushes_bounded (m : Int) (hm : 0 < m) (e : Ev) (r : List Ev) (h0 : 0 < e.now)
    (hmono : Mono e.now r) :
    (renewals (run m {} (e :: r)).ticks : Int) * m ≤ (endTime e.now r - e.now) + m := by
  have start : FInv m e.now e.now {} := ⟨Int.le_refl _, Nat.le_refl _, fun h => (h rfl).elim⟩
  exact (run_finv (e :: r) ⟨Int.le_refl _, hmono⟩ start).bound hm

/-- the bound as the driver evaluates it on an observed connection (`flush bound`) -/
theorem boundOK_of_run (m : Int) (hm : 0 < m) (e : Ev) (r : List Ev) (h0 : 0 < e.now) (hmono : Mono e.now r)
    (L : Int) (hL : endTime e.now r - e.now ≤ L) :
    boundOK m L (renewals (run m {} (e :: r)).ticks) = true := by
  have := C08_renewal_flushes_bounded m hm e r h0 hmono
  simp only [boundOK, decide_eq_true_eq]
  omega

theorem step_ticks (m : Int) (s : St) (e : Ev) : ∀ t ∈ (step m s e).ticks,
    t ∈ s.ticks ∨ t = .idle e.now (renew m s.D e.now) ∨ ∃ d, t = .renewal d := by
  unfold step
  fun_cases stepL (stepW m s e.now) e <;> simp only [stepW, Ev.now, List.mem_append, List.mem_singleton]
  · exact fun t h => h.imp_right .inl
  · exact fun t h => .inl h
  · exact fun t h => .inl h
  · exact fun t h => h.imp_right fun h => .inr ⟨_, h⟩

/-- every idle flush tick of a run fired at least `m` after the read was entered -/
theorem C08_idle_ticks_after_pause (m : Int) (hm : 0 ≤ m) (es : List Ev) (s : St)
    (hs : ∀ t ∈ s.ticks, ∀ a b, t = .idle a b → b - a ≥ m) :
    ∀ t ∈ (run m s es).ticks, ∀ a b, t = .idle a b → b - a ≥ m := by
  induction es generalizing s with
  | nil => exact hs
  | cons e r ih =>
    refine ih _ fun t ht a b hab => ?_
    rcases step_ticks m s e t ht with h | rfl | ⟨d, rfl⟩
    · exact hs t h a b hab
    · cases hab; exact (C08_timeout_means_idle m s.D _ hm).1
    · cases hab

/-- what an observer can check of one real `Read` is sound for the model: a call entered at some
`now ∈ [t0, t1]` that behaves like `renew` is accepted by `consistent` -/
theorem consistent_of_renew (m t0 t1 Db now : Int) (h0 : t0 ≤ now) (h1 : now ≤ t1) (hm : 0 < m) :
    consistent m t0 t1 Db (renew m Db now) = true := by
  unfold consistent
  rcases renew_cases m Db now with ⟨h, e⟩ | ⟨h, e⟩ <;> rw [e]
  · rw [if_neg (by omega), Int.add_sub_cancel]
    exact decide_eq_true ⟨h0, h1, h⟩
  · rw [if_pos rfl]
    exact decide_eq_true (by omega)

example : (run 10 {} [.data 1, .data 5, .data 12, .timeout 13, .data 40]).ticks =
    [.renewal 32, .idle 13 32, .renewal 60] := by decide

/-! ### translated condition (Tie B, semantic form) -/

theorem C08_fact_renew_rule_found : Facts.gen_renew_rule_found = true := rfl
/-- the renewal test translated from `NetConnWrapper.Read` is `renew`'s -/
theorem C08_gen_renew_rule (m D now : Int) :
    renew m D now = if Facts.gen_renew_rule D now m then now + 2 * m else D := by
  unfold renew Facts.gen_renew_rule
  by_cases h : D - now < m <;> simp [h]

/-! ### fact obligations (Tie B): the code has the shape `renew` / `stepL` model -/

/-- `NetConnWrapper.Read` renews when less than `readTimeoutMin` is left, to `now + readTimeoutMax` -/
theorem C08_fact_wrapper_read : Facts.flush_wrapper_read =
    ["if cw.readTimeoutMin > 0", "now := time.Now()", "if cw.readDeadline.Sub(now) < cw.readTimeoutMin",
     "nextDeadline := now.Add(cw.readTimeoutMax)", "init err := cw.conn.SetReadDeadline(nextDeadline)", "if err != nil",
     "err := cw.conn.SetReadDeadline(nextDeadline)", "return 0, err", "cw.readDeadline = nextDeadline",
     "return cw.conn.Read(p)"] := rfl
/-- the deadline is set two intervals ahead; it starts as the zero time -/
theorem C08_fact_wrapper_max : Facts.flush_wrapper_max =
    ["readTimeoutMin: readTimeout", "readTimeoutMax: readTimeout * 2", "readDeadline: time.Time{}"] := rfl
/-- the listener's reader uses the flush interval as `m` -/
theorem C08_fact_listener_reader : Facts.flush_listener_reader = ["util.WrapNetConn(conn, defs.InputFlushInterval, 0)"] := rfl
/-- the read loop is `stepL`: remember the first deadline; flush and remember when it differs; flush on a timeout -/
theorem C08_fact_listener_loop : Facts.flush_listener_loop =
    ["readErr := mlineReader.Read()", "if readErr == nil", "  if prevDeadline.Equal(emptyTime)",
     "    prevDeadline = connReader.ReadDeadline()", "  else", "    if !connReader.ReadDeadline().Equal(prevDeadline)",
     "      mlineReader.Flush()", "      recvChan.Flush()", "      prevDeadline = connReader.ReadDeadline()", "  continue",
     "if util.IsNetworkTimeout(readErr)", "  mlineReader.Flush()", "  recvChan.Flush()", "  continue"] := rfl

end C08

