import SlogModel.Model.Frame
import SlogModel.Lemmas.Bytes
import SlogModel.Gen.Facts

/-!
  C08 — Record framing is independent of TCP segmentation and flush timing.

  * `C08_fragmentation` : two fragmentations of the same byte stream, neither of which overflows
                          the buffer, emit the same records and end in the same state — namely
                          those of feeding the stream byte by byte (`feed`).
  * `C08_no_overflow_of_prefixes` : the no-overflow condition can be stated on the stream alone
                          (every prefix leaves room), so it does not depend on the fragmentation.
  * `C08_flush_single_line` : for streams of single-line valid records, under any placement of
                          `Flush` between reads and any fragmentation, the emitted valid records
                          are exactly the lines, once each, in order.
  * `C08_continuation`, `C08_next_start_emits` : a continuation line is attached to the record it follows when no
                          flush separates them; the next valid start emits that record whole.
  * `C08_gen_room_rule` : the no-overflow test translated from the source is `Room`.
  In `Props/C08Flush.lean`:
  * `C08_timeout_means_idle`, `C08_idle_ticks_after_pause` : a flush after a read timeout follows an
                          idle period of at least the flush interval `m` (the lazily renewed read
                          deadline of `NetConnWrapper` is never less than `m` ahead when a read is
                          entered).
  * `C08_renewal_flushes_bounded` : the only other flushes — "for deadline update", which can cut a
                          multi-line record although the sender did not pause — number at most one
                          per flush interval of connection lifetime plus one (`f·m ≤ lifetime + m`).
-/

namespace C08
open Frame

theorem feedAux_acc (t : Bytes → Bool) (s : St) (bs : Bytes) (acc : List Bytes) :
    feedAux t s bs acc = ((feedAux t s bs []).1, (feedAux t s bs []).2 ++ acc) := by
  induction bs generalizing s acc with
  | nil => simp [feedAux]
  | cons b bs ih =>
    simp only [feedAux]
    rw [ih _ ((feedByte t s b).2 ++ acc), ih _ ((feedByte t s b).2 ++ [])]
    simp

/-- a byte emits at most one record -/
theorem feedByte_out_rev (t : Bytes → Bool) (s : St) (b : Nat) :
    (feedByte t s b).2.reverse = (feedByte t s b).2 := by
  fun_cases feedByte t s b
  · fun_cases lineStep t s <;> rfl
  · rfl

theorem feed_nil (t : Bytes → Bool) (s : St) : feed t s [] = (s, []) := rfl

theorem feed_cons (t : Bytes → Bool) (s : St) (b : Nat) (bs : Bytes) :
    feed t s (b :: bs) = ((feed t (feedByte t s b).1 bs).1, (feedByte t s b).2 ++ (feed t (feedByte t s b).1 bs).2) := by
  simp only [feed, feedAux]
  rw [feedAux_acc]
  simp [feedByte_out_rev]

theorem feed_append (t : Bytes → Bool) (s : St) (a b : Bytes) :
    feed t s (a ++ b) = ((feed t (feed t s a).1 b).1, (feed t s a).2 ++ (feed t (feed t s a).1 b).2) := by
  induction a generalizing s with
  | nil => simp [feed_nil]
  | cons x xs ih => simp [feed_cons, ih]

theorem feed_no_newline (t : Bytes → Bool) (s : St) (l : Bytes) (h : 10 ∉ l) :
    feed t s l = ({ s with restRev := l.reverse ++ s.restRev }, []) := by
  induction l generalizing s with
  | nil => simp [feed_nil]
  | cons x xs ih =>
    have hx := List.ne_of_not_mem_cons h
    have hxs := List.not_mem_of_not_mem_cons h
    rw [feed_cons, feedByte, if_neg (Ne.symm hx), ih _ hxs]
    simp

theorem feed_line (t : Bytes → Bool) (s : St) (l : Bytes) (h10 : 10 ∉ l) :
    feed t s (l ++ [10]) = lineStep t { s with restRev := l.reverse ++ s.restRev } := by
  rw [feed_append, feed_no_newline t s l h10, feed_cons, feed_nil, feedByte, if_pos rfl]
  simp

/-- the reader's states: the unscanned tail holds no newline -/
def Scanned (s : St) : Prop := 10 ∉ s.restRev

theorem feedByte_scanned (t : Bytes → Bool) (s : St) (b : Nat) (h : Scanned s) : Scanned (feedByte t s b).1 := by
  fun_cases feedByte t s b
  · fun_cases lineStep t s <;> exact List.not_mem_nil
  · rename_i hb
    exact List.not_mem_cons_of_ne_of_not_mem (Ne.symm hb) h

theorem feed_scanned (t : Bytes → Bool) (s : St) (bs : Bytes) (h : Scanned s) : Scanned (feed t s bs).1 := by
  induction bs generalizing s with
  | nil => exact h
  | cons b bs ih => rw [feed_cons]; exact ih _ (feedByte_scanned t s b h)

/-- the buffer has room for another record of maximal length (`checkOverflow` does nothing) -/
def Room (c : Cfg) (s : St) : Prop := c.cap - s.offsetAppend ≥ c.soft

theorem read_eq_feed (c : Cfg) (t : Bytes → Bool) (s : St) (frag : Bytes)
    (h : Room c (feed t s frag).1) : Frame.read c t s frag = feed t s frag := by
  unfold Frame.read
  by_cases hf : frag = []
  · simp [hf, feed_nil]
  · simp only [hf, if_false]
    unfold Room at h
    simp [checkOverflow, h]

/-- every read of the fragmentation leaves room -/
def Safe (c : Cfg) (t : Bytes → Bool) : St → List Bytes → Prop
  | _, [] => True
  | s, f :: fs => Room c (feed t s f).1 ∧ Safe c t (feed t s f).1 fs

theorem run_reads_eq_feed (c : Cfg) (t : Bytes → Bool) (s : St) (frags : List Bytes)
    (h : Safe c t s frags) : run c t s (frags.map .read) = feed t s frags.flatten := by
  induction frags generalizing s with
  | nil => simp [run, feed_nil]
  | cons f fs ih =>
    obtain ⟨h1, h2⟩ := h
    simp only [List.map_cons, run, step, List.flatten_cons]
    rw [read_eq_feed c t s f h1, ih _ h2, feed_append]

theorem run_append (c : Cfg) (t : Bytes → Bool) (s : St) (a b : List Op) :
    run c t s (a ++ b) =
      ((run c t (run c t s a).1 b).1, (run c t s a).2 ++ (run c t (run c t s a).1 b).2) := by
  induction a generalizing s with
  | nil => simp [run]
  | cons x xs ih => simp [run, ih, List.append_assoc]

/-- **C08 (fragmentation independence).** Any two ways of cutting the same byte stream into reads,
neither of which overflows the buffer, produce the same records in the same order and the same
final reader state: those of the byte-fed reference framer. -/
theorem C08_fragmentation (c : Cfg) (t : Bytes → Bool) (s : St) (f₁ f₂ : List Bytes)
    (hsame : f₁.flatten = f₂.flatten) (h₁ : Safe c t s f₁) (h₂ : Safe c t s f₂) :
    run c t s (f₁.map .read) = run c t s (f₂.map .read) ∧
    run c t s (f₁.map .read) = feed t s f₁.flatten := by
  rw [run_reads_eq_feed c t s f₁ h₁, run_reads_eq_feed c t s f₂ h₂, hsame]
  exact ⟨rfl, rfl⟩

/-- **C08 (the side condition is a property of the stream).** If every prefix of the stream
leaves room in the buffer, every fragmentation of it is safe. -/
theorem C08_no_overflow_of_prefixes (c : Cfg) (t : Bytes → Bool) (s : St) (frags : List Bytes)
    (h : ∀ p, p <+: frags.flatten → Room c (feed t s p).1) : Safe c t s frags := by
  induction frags generalizing s with
  | nil => trivial
  | cons f fs ih =>
    refine ⟨h f (by simp), ih _ ?_⟩
    intro p hp
    have := h (f ++ p) (by simpa using (List.prefix_append_right_inj f).mpr hp)
    rw [feed_append] at this
    exact this

/-- **C08 (continuation).** A line that is not a valid record start, arriving while a record is
pending and with no flush in between, is attached to that record: nothing is emitted and the
pending record grows by exactly this line. -/
theorem C08_continuation (t : Bytes → Bool) (s : St) (l : Bytes) (h10 : 10 ∉ l)
    (hnot : t l = false) (hrest : s.restRev = []) :
    feed t s (l ++ [10]) = ({ curRev := 10 :: (l.reverse ++ s.curRev), restRev := [] }, []) := by
  rw [feed_line t s l h10, hrest, lineStep]
  simp only [List.append_nil, List.reverse_reverse]
  rw [if_neg fun h => Bool.false_ne_true (hnot ▸ h.2.2)]

/-- **C08 (a record is emitted whole).** When the next valid record start arrives, the pending
record — its first line and all continuation lines attached since — is emitted as one record. -/
theorem C08_next_start_emits (t : Bytes → Bool) (s : St) (l : Bytes) (h10 : 10 ∉ l)
    (hok : t l = true) (hne : l ≠ []) (hrest : s.restRev = []) (hcur : s.curRev ≠ []) :
    feed t s (l ++ [10]) = ({ curRev := 10 :: l.reverse, restRev := [] }, [s.curRev.tail.reverse]) := by
  rw [feed_line t s l h10, hrest, lineStep]
  simp only [List.append_nil, List.reverse_reverse]
  rw [if_pos ⟨hcur, hne, hok⟩]

/-- a single-line valid record: passes the start test, is non-empty, contains no newline -/
def LineOK (t : Bytes → Bool) (l : Bytes) : Prop := t l = true ∧ l ≠ [] ∧ 10 ∉ l

/-- reader states reachable on streams of single-line valid records -/
def Inv (t : Bytes → Bool) (s : St) : Prop :=
  (s.curRev = [] ∨ ∃ l, LineOK t l ∧ s.curRev = 10 :: l.reverse) ∧ Scanned s

/-- the complete line held back in the buffer, if any -/
def pending (s : St) : List Bytes := if s.curRev = [] then [] else [s.curRev.tail.reverse]

theorem splitLastNL_none (xs after : Bytes) (h : 10 ∉ xs) : splitLastNL xs after = none := by
  induction xs generalizing after with
  | nil => rfl
  | cons x xs ih =>
    have hx := List.ne_of_not_mem_cons h
    have hxs := List.not_mem_of_not_mem_cons h
    simp only [splitLastNL, Ne.symm hx, if_false]
    exact ih _ hxs

theorem splitLastNL_some (xs r after : Bytes) (h : 10 ∉ xs) :
    splitLastNL (xs ++ 10 :: r) after = some (r, xs.reverse ++ after) := by
  induction xs generalizing after with
  | nil => simp [splitLastNL]
  | cons x xs ih =>
    have hx := List.ne_of_not_mem_cons h
    have hxs := List.not_mem_of_not_mem_cons h
    simp only [List.cons_append, splitLastNL, Ne.symm hx, if_false]
    rw [ih _ hxs]
    simp

theorem lineStep_of_inv (t : Bytes → Bool) (s : St) (hi : Inv t s) (hl : LineOK t s.restRev.reverse) :
    lineStep t s = ({ curRev := 10 :: s.restRev, restRev := [] }, pending s) := by
  obtain ⟨ht, hne, -⟩ := hl
  rcases hi.1 with hc | ⟨l, -, hc⟩ <;> simp [lineStep, pending, hc, hne, ht]

theorem flush_of_inv (t : Bytes → Bool) (s : St) (hi : Inv t s) :
    flush t s = ({ curRev := [], restRev := s.restRev }, pending s) := by
  rcases hi.1 with hc | ⟨l, ⟨h1, h2, h3⟩, hc⟩
  · cases s; simp_all [flush, pending, splitLastNL_none _ _ hi.2]
  · simp [flush, pending, hc, splitLastNL_some _ _ _ hi.2, h1, h2]

theorem flushAll_of_inv (t : Bytes → Bool) (s : St) (hi : Inv t s) (hr : s.restRev = []) :
    flushAll t s = ({}, pending s) := by
  rcases hi.1 with hc | ⟨l, ⟨h1, -, -⟩, hc⟩
  · simp [flushAll, pending, hc, hr]
  · simp [flushAll, pending, hc, hr, h1]

/-- operations between which the stream is cut: a read of a fragment, or a flush tick -/
inductive RFOp where
  | read (frag : Bytes)
  | flush

def RFOp.toOp : RFOp → Op
  | .read f => .read f
  | .flush => .flush

def readsOf : List RFOp → Bytes
  | [] => []
  | .read f :: r => f ++ readsOf r
  | .flush :: r => readsOf r

/-- every read leaves room in the buffer (no overflow handling is triggered) -/
def SafeOps (c : Cfg) (t : Bytes → Bool) : St → List RFOp → Prop
  | _, [] => True
  | s, .read f :: r => Room c (feed t s f).1 ∧ SafeOps c t (feed t s f).1 r
  | s, .flush :: r => SafeOps c t (flush t s).1 r

theorem lines_cons {t : Bytes → Bool} {l bs : Bytes} {recs : List Bytes} (hl : 10 ∉ l) (hr : ∀ r ∈ recs, LineOK t r)
    (h : l ++ 10 :: bs = (recs.map (· ++ [10])).flatten) :
    ∃ rs, recs = l :: rs ∧ bs = (rs.map (· ++ [10])).flatten := by
  cases recs with
  | nil => exact absurd h (by simp)
  | cons r rs =>
    rw [List.map_cons, List.flatten_cons, List.append_assoc] at h
    -- the first newline is at the same position on both sides, hence `l.length = r.length`
    have hlen := congrArg (indexByte · 10) h
    simp only [List.singleton_append, indexByte_append_cons hl, indexByte_append_cons (hr r List.mem_cons_self).2.2,
      Option.some.injEq] at hlen
    obtain ⟨rfl, h2⟩ := List.append_inj h hlen
    exact ⟨rs, rfl, (List.cons.inj h2).2⟩

/-- in state `s`, with `bs` still to come, the lines not yet completed are `recs` -/
def Ahead (t : Bytes → Bool) (s : St) (bs : Bytes) (recs : List Bytes) : Prop :=
  Inv t s ∧ (∀ r ∈ recs, LineOK t r) ∧ s.restRev.reverse ++ bs = (recs.map (· ++ [10])).flatten

theorem Ahead.feed {t : Bytes → Bool} (bs : Bytes) : ∀ {s : St} {tail : Bytes} {recs : List Bytes},
    Ahead t s (bs ++ tail) recs →
    ∃ rs, Ahead t (feed t s bs).1 tail rs ∧ (feed t s bs).2 ++ (pending (feed t s bs).1 ++ rs) = pending s ++ recs := by
  induction bs with
  | nil => exact fun h => ⟨_, h, rfl⟩
  | cons b bs ih =>
    intro s tail recs ⟨hi, hv, hb⟩
    rw [feed_cons]
    unfold feedByte
    by_cases h10 : b = 10
    · -- a newline: the partial line is the first of `recs`; it becomes the pending record and what was pending is emitted
      subst h10
      obtain ⟨rs, rfl, hb'⟩ := lines_cons (fun m => hi.2 (List.mem_reverse.mp m)) hv hb
      have hl := hv _ List.mem_cons_self
      rw [if_pos rfl, lineStep_of_inv t s hi hl]
      obtain ⟨rs', h', e⟩ := ih (s := ⟨10 :: s.restRev, []⟩) (tail := tail) (recs := rs)
        ⟨⟨Or.inr ⟨_, hl, by rw [List.reverse_reverse]⟩, List.not_mem_nil⟩,
          fun r hr => hv r (List.mem_cons_of_mem _ hr), hb'⟩
      exact ⟨rs', h', by rw [List.append_assoc, e]; rfl⟩
    · -- any other byte joins the partial line; the lines ahead stay as they are
      rw [if_neg h10]
      have hb' : (b :: s.restRev).reverse ++ (bs ++ tail) = (recs.map (· ++ [10])).flatten := by
        rw [List.reverse_cons, List.append_assoc]; exact hb
      exact ih ⟨⟨hi.1, List.not_mem_cons_of_ne_of_not_mem (Ne.symm h10) hi.2⟩, hv, hb'⟩

theorem Ahead.run (c : Cfg) (t : Bytes → Bool) (ops : List RFOp) : ∀ {s : St} {recs : List Bytes},
    Ahead t s (readsOf ops) recs → SafeOps c t s ops →
    (run c t s (ops.map RFOp.toOp ++ [.flushAll])).2 = pending s ++ recs := by
  induction ops with
  | nil =>
    intro s recs ⟨hi, _, hb⟩ _
    rw [readsOf, List.append_nil] at hb
    cases recs with
    -- a line still ahead would put a newline into the unscanned tail
    | cons r rs => exact absurd (List.mem_reverse.mp (hb ▸ by simp)) hi.2
    | nil =>
      show (flushAll t s).2 ++ [] = pending s ++ []
      rw [flushAll_of_inv t s hi (List.reverse_eq_nil_iff.mp hb)]
  | cons o os ih =>
    intro s recs h hs
    simp only [List.map_cons, List.cons_append, Frame.run]
    cases o with
    | flush =>
      have hs' : SafeOps c t (flush t s).1 os := hs
      simp only [RFOp.toOp, step]
      rw [flush_of_inv t s h.1] at hs' ⊢
      rw [ih (s := ⟨[], s.restRev⟩) ⟨⟨Or.inl rfl, h.1.2⟩, h.2⟩ hs']
      rfl
    | read f =>
      obtain ⟨rs, h', e⟩ := Ahead.feed f h
      simp only [RFOp.toOp, step]
      rw [read_eq_feed c t s f hs.1, ih h' hs.2, e]

/-- **C08 (flush timing, single-line records).** For a stream of single-line valid records, cut
into reads in any way, with flush ticks at any positions between the reads (and no overflow), the
reader emits exactly the records of the stream — each once, in order — by the time the connection
ends. -/
theorem C08_flush_single_line (c : Cfg) (t : Bytes → Bool) (recs : List Bytes)
    (hv : ∀ r ∈ recs, LineOK t r) (ops : List RFOp)
    (hbytes : readsOf ops = (recs.map (· ++ [10])).flatten) (hsafe : SafeOps c t {} ops) :
    (run c t {} (ops.map RFOp.toOp ++ [.flushAll])).2 = recs :=
  Ahead.run c t ops ⟨⟨Or.inl rfl, List.not_mem_nil⟩, hv, hbytes⟩ hsafe

/-! ### fact obligations (Tie B) and non-vacuity -/

/-- the reader's buffer holds at least three records of maximal length (`newMultiLineReader`) -/
theorem C08_fact_buffer_factor : Facts.frame_buffer_factor = some 3 := rfl
/-- overflow handling is skipped exactly while `Room` holds (`cap - offsetAppend ≥ soft`), and is evaluated after every read -/
theorem C08_fact_overflow_condition : Facts.frame_overflow_condition =
    ["return if len(mlr.buffer)-mlr.offsetAppend >= mlr.softRecordLimit", "processBuffer ends with mlr.checkOverflow()"] := rfl
theorem C08_fact_room_rule_found : Facts.gen_room_rule_found = true := rfl
/-- the no-overflow test translated from `checkOverflow` is `Room`, whenever the buffer holds the data -/
theorem C08_gen_room_rule (c : Cfg) (s : St) (h : s.offsetAppend ≤ c.cap) :
    Facts.gen_room_rule c.cap s.offsetAppend c.soft = true ↔ Room c s := by
  unfold Facts.gen_room_rule Room
  have : ((c.cap : Int) - (s.offsetAppend : Int)) = ((c.cap - s.offsetAppend : Nat) : Int) := by omega
  rw [this]
  simp
/-- `runConnection` sizes the reader with the record limit as soft limit -/
theorem C08_fact_soft_limit : Facts.frame_soft_is_max_record = some true := rfl

def v1 : Bytes := b!"<13>1 2019-08-15T15:50:46Z h a 1 s - one"
def v2 : Bytes := b!"<163>1 2019-08-15T15:50:46Z h a 2 s - two"

example : LineOK recordStart v1 ∧ LineOK recordStart v2 := by unfold LineOK; decide
example : SafeOps { cap := 600, soft := 200 } recordStart {}
    [.read (v1.take 7), .flush, .read (v1.drop 7 ++ [10] ++ v2), .flush, .read [10]] := by
  simp only [SafeOps, Room]; decide
example : (run { cap := 600, soft := 200 } recordStart {}
    ([RFOp.read (v1.take 7), .flush, .read (v1.drop 7 ++ [10] ++ v2), .flush, .read [10]].map RFOp.toOp
      ++ [.flushAll])).2 = [v1, v2] := rfl

end C08
