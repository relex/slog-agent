import SlogModel.Lemmas.BufferSpace
import SlogModel.Lemmas.BufferMemory
import SlogModel.Gen.Facts

/-!
  C03 — The hybrid buffer conserves chunks in FIFO order within its bounds.

  The theorems quantify over every generation start `Buffer.recover cfg disk` (any capacities, any
  size limit, usable directory or not, any set of files with distinct names found at start) and every
  finite sequence of operations `Buffer.step` — accept with arbitrary data, consumer take / confirm /
  hand back in any order, destroy, finish — in which the environment keeps its promises (`C03.Legal`:
  chunk ids are new, nobody tampers with the queue directory).  `Buffer.step` runs the feeder to
  quiescence after `accept` and `take` (the other operations leave it nothing to do); the correspondence
  check compares the real buffer with it at exactly those points (counters, gauges, window, hand, directory contents).

  * `C03_conserved` : every accepted or recovered chunk is, with multiplicity one, exactly one of:
      queued / in the feeder's hand / in the output window / held by the consumer, confirmed,
      counted as dropped, or kept as a file for the next start.
  * `C03_shutdown_accounted` : after `destroy` nothing is queued any more: every chunk is held by
      the consumer, confirmed, dropped (counted) or kept.
  * `C03_fifo` : what the consumer received, followed by the window, the hand and the queue, is a
      subsequence of (recovered files in name order) ++ (acceptance order); `C03_taken_in_order` : in
      particular the consumer receives chunks in that order.
  * `C03_window_bound` : the output window never holds more than `memCap` chunks.
  * `C03_recovered_first` : the acceptance order starts with the recovered files, in name order.
  * `C03_delivered_unchanged` : every chunk the consumer receives is byte-for-byte a chunk that was
      accepted or recovered; `C03_files_hold_accepted_bytes` : every file named by an accepted id holds
      the accepted bytes (so what is kept for the next start is unchanged too).
  * `C03_space_bound` : the bytes of the files in the directory never exceed the
      `persistent_chunk_bytes` gauge, which never exceeds the size limit (or what was found at the
      start, when that was more); `C03_space_within_limit` : a directory that starts within the limit
      stays within it.
  * `C03_memory_bound` : at every quiescent point every queued entry is unloaded, so the loaded chunks
      inside the buffer are the window (≤ `memCap`) and at most one in the feeder's hand.
  * `C03_conserved_every_schedule`, `C03_fifo_every_schedule`, `C03_unchanged_every_schedule` : conservation, FIFO, byte identity and the window bound
      hold for every interleaving of single feeder steps with the operations, including a start at which
      chunks are accepted before the feeder has run (the system `stepI` of `Lemmas/BufferSched.lean`; the invariants in
      `Lemmas/Buffer.lean`, `BufferData.lean`); the quiescing runs that
      the correspondence compares are among these schedules (`C03_quiescent_runs_are_schedules`).
  * `C03_loaded_bound_every_schedule` : at every point of every such interleaving at most
      `queueCap + 1 + memCap` chunks have their bytes in memory.
  The model writes a file atomically with its quota check (one feeder, one `Accept` caller, one
  consumer at a time); the slack "plus the chunks being saved concurrently at shutdown" and the
  loaded chunks in the input channel between quiescent points are outside it (correspondence and
  harness oracle only).
-/

open Buffer

namespace C03

/-! ### every schedule of the feeder goroutine (not only quiescent points) -/

/-- **C03 (conservation, every schedule).** With the feeder's steps interleaved arbitrarily with the
operations — from the very start, before the feeder has moved a single recovered chunk — every accepted
or recovered chunk is exactly one of queued / in hand / in the window / held / confirmed / dropped / kept. -/
theorem C03_conserved_every_schedule (cfg : Cfg) (disk : List (Nat × Bytes)) (hd : (disk.map (·.1)).Nodup)
    (as : List IAct) (s : St) (h : runI (recoverRaw cfg disk) as = some s) (hl : LegalI (recoverRaw cfg disk) as) :
    (∀ i, ((s.accepted.map (·.1)).count i =
      (s.inQ.map (·.id)).count i + (handIds s.hand).count i + (s.outW.map (·.id)).count i + (s.held.map (·.id)).count i +
      s.confirmedG.count i + s.droppedG.count i + s.keptG.count i)) ∧ (s.accepted.map (·.1)).Nodup := by
  have hi := (legal_every_schedule hd h hl).1
  refine ⟨fun i => ?_, hi.nodup⟩
  have := hi.cons i
  simp only [places, accIds, List.count_append] at this
  omega

/-- **C03 (FIFO and window bound, every schedule).** -/
theorem C03_fifo_every_schedule (cfg : Cfg) (disk : List (Nat × Bytes)) (as : List IAct) (s : St)
    (h : runI (recoverRaw cfg disk) as = some s) :
    (s.taken.map (·.1) ++ s.outW.map (·.id) ++ handIds s.hand ++ s.inQ.map (·.id)).Sublist (s.accepted.map (·.1)) ∧
    s.outW.length ≤ s.cfg.memCap :=
  ⟨(bounds_every_schedule h).fifo, (bounds_every_schedule h).win⟩

/-- chunks whose bytes are in memory: loaded entries of the input channel, the chunk in the feeder's hand, the window -/
def loaded (s : St) : Nat :=
  (s.inQ.filter (fun e => e.data.isSome)).length + (if s.hand.isSome then 1 else 0) + s.outW.length

/-- **C03 (only a fixed number of chunks stay in memory, every schedule).** At every point of every interleaving of the
feeder's steps with the operations — not only at quiescent points — at most `queueCap + 1 + memCap` chunks are loaded: the
input channel never exceeds its capacity, the feeder holds at most one chunk, the window at most `memCap`.  (At quiescent
points the queued entries are all unloaded: `C03_memory_bound`.) -/
theorem C03_loaded_bound_every_schedule (cfg : Cfg) (disk : List (Nat × Bytes)) (as : List IAct) (s : St)
    (h : runI (recoverRaw cfg disk) as = some s) : loaded s ≤ s.cfg.queueCap + 1 + s.cfg.memCap := by
  have hw := (bounds_every_schedule h).win
  have hq := (bounds_every_schedule h).queue
  have hf : (s.inQ.filter (fun e => e.data.isSome)).length ≤ s.inQ.length := List.length_filter_le _ _
  unfold loaded Win QB at *
  split <;> omega

/-- non-vacuity: three accepts before the feeder has taken a step — three loaded chunks with a window of two -/
example : (runI { cfg := { memCap := 2, queueCap := 5, maxBytes := 100, hasDir := true } }
    [.op (.accept 1 [1]), .op (.accept 2 [2]), .op (.accept 3 [3])]).map loaded = some 3 := rfl

/-- **C03 (byte-for-byte unchanged, every schedule).** -/
theorem C03_unchanged_every_schedule (cfg : Cfg) (disk : List (Nat × Bytes)) (hd : (disk.map (·.1)).Nodup)
    (as : List IAct) (s : St) (h : runI (recoverRaw cfg disk) as = some s) (hl : LegalI (recoverRaw cfg disk) as) :
    (∀ p ∈ s.taken, p ∈ s.accepted) ∧ (∀ p ∈ s.disk, p.1 ∈ s.accepted.map (·.1) → p ∈ s.accepted) :=
  have hd' := (legal_every_schedule hd h hl).2.1
  ⟨hd'.tk, hd'.disk⟩

/-- the runs compared with the real buffer at quiescent points are among these schedules -/
theorem C03_quiescent_runs_are_schedules (cfg : Cfg) (disk : List (Nat × Bytes)) (ops : List Op) (s : St)
    (h : run (recover cfg disk) ops = some s) : ∃ as, runI (recoverRaw cfg disk) as = some s :=
  (recover_schedule h).imp fun _ h => h.1

/-! ### the runs of the quiescing model: legal ones are legal schedules (`recover_schedule`) -/

/-- **C03 (conservation).** -/
theorem C03_conserved (cfg : Cfg) (disk : List (Nat × Bytes)) (hd : (disk.map (·.1)).Nodup)
    (ops : List Op) (s : St) (h : run (recover cfg disk) ops = some s) (hl : Legal (recover cfg disk) ops) :
    (∀ i, ((s.accepted.map (·.1)).count i =
      (s.inQ.map (·.id)).count i + (handIds s.hand).count i + (s.outW.map (·.id)).count i + (s.held.map (·.id)).count i +
      s.confirmedG.count i + s.droppedG.count i + s.keptG.count i)) ∧ (s.accepted.map (·.1)).Nodup := by
  obtain ⟨as, has, hlas⟩ := recover_schedule h
  exact C03_conserved_every_schedule cfg disk hd as s has (hlas hl)

/-- **C03 (nothing is silently discarded).** After `destroy`, every accepted or recovered chunk is
held by the consumer, or confirmed, or counted as dropped, or kept as a file — exactly one of them. -/
theorem C03_shutdown_accounted (cfg : Cfg) (disk : List (Nat × Bytes)) (hd : (disk.map (·.1)).Nodup)
    (ops : List Op) (s : St) (h : run (recover cfg disk) ops = some s) (hl : Legal (recover cfg disk) ops)
    (hdes : s.destroyed = true) :
    (∀ i, (s.accepted.map (·.1)).count i =
      (s.held.map (·.id) ++ s.confirmedG ++ s.droppedG ++ s.keptG).count i) ∧
    (s.held.map (·.id) ++ s.confirmedG ++ s.droppedG ++ s.keptG).Nodup := by
  obtain ⟨k1, k2⟩ := C03_conserved cfg disk hd ops s h hl
  obtain ⟨as, has, _⟩ := recover_schedule h
  obtain ⟨d1, d2, d3⟩ := (bounds_every_schedule has).drained hdes
  have hcount : ∀ i, (s.accepted.map (·.1)).count i =
      (s.held.map (·.id) ++ s.confirmedG ++ s.droppedG ++ s.keptG).count i := by
    intro i
    have := k1 i
    rw [d1, d2, d3] at this
    simp [handIds, List.count_append] at this ⊢
    omega
  exact ⟨hcount, nodup_of_count_le k2 fun i => Nat.le_of_eq (hcount i).symm⟩

/-- **C03 (FIFO).** -/
theorem C03_fifo (cfg : Cfg) (disk : List (Nat × Bytes)) (ops : List Op) (s : St)
    (h : run (recover cfg disk) ops = some s) :
    (s.taken.map (·.1) ++ s.outW.map (·.id) ++ handIds s.hand ++ s.inQ.map (·.id)).Sublist (s.accepted.map (·.1)) := by
  obtain ⟨as, has, _⟩ := recover_schedule h
  exact (C03_fifo_every_schedule cfg disk as s has).1

/-- in particular the consumer receives chunks in acceptance order -/
theorem C03_taken_in_order (cfg : Cfg) (disk : List (Nat × Bytes)) (ops : List Op) (s : St)
    (h : run (recover cfg disk) ops = some s) : (s.taken.map (·.1)).Sublist (s.accepted.map (·.1)) := by
  refine List.Sublist.trans ?_ (C03_fifo cfg disk ops s h)
  rw [List.append_assoc, List.append_assoc]
  exact List.sublist_append_left _ _

/-- **C03 (byte-for-byte unchanged).** -/
theorem C03_delivered_unchanged (cfg : Cfg) (disk : List (Nat × Bytes)) (hd : (disk.map (·.1)).Nodup)
    (ops : List Op) (s : St) (h : run (recover cfg disk) ops = some s) (hl : Legal (recover cfg disk) ops) :
    ∀ p ∈ s.taken, p ∈ s.accepted := by
  obtain ⟨as, has, hlas⟩ := recover_schedule h
  exact (C03_unchanged_every_schedule cfg disk hd as s has (hlas hl)).1

theorem C03_files_hold_accepted_bytes (cfg : Cfg) (disk : List (Nat × Bytes)) (hd : (disk.map (·.1)).Nodup)
    (ops : List Op) (s : St) (h : run (recover cfg disk) ops = some s) (hl : Legal (recover cfg disk) ops) :
    ∀ p ∈ s.disk, p.1 ∈ s.accepted.map (·.1) → p ∈ s.accepted := by
  obtain ⟨as, has, hlas⟩ := recover_schedule h
  exact (C03_unchanged_every_schedule cfg disk hd as s has (hlas hl)).2

/-- **C03 (window bound).** -/
theorem C03_window_bound (cfg : Cfg) (disk : List (Nat × Bytes)) (ops : List Op) (s : St)
    (h : run (recover cfg disk) ops = some s) : s.outW.length ≤ s.cfg.memCap := by
  obtain ⟨as, has, _⟩ := recover_schedule h
  exact (C03_fifo_every_schedule cfg disk as s has).2

/-- **C03 (space bound).** With a usable directory, under every legal history: the files of the
queue directory hold at most `persistent_chunk_bytes` bytes, and that gauge never exceeds the
configured limit — or the bytes found at the start of the generation, when those were more. -/
theorem C03_space_bound (cfg : Cfg) (disk : List (Nat × Bytes)) (hd : (disk.map (·.1)).Nodup) (hdir : cfg.hasDir = true)
    (ops : List Op) (s : St) (h : run (recover cfg disk) ops = some s) (hl : Legal (recover cfg disk) ops) :
    (diskBytes s.disk : Int) ≤ s.c.gBytes ∧ s.c.gBytes ≤ max (cfg.maxBytes : Int) (diskBytes disk) := by
  obtain ⟨as, has, hlas⟩ := recover_schedule h
  have := (legal_every_schedule hd has (hlas hl)).2.2 hdir
  exact ⟨this.sb, this.qb⟩

theorem C03_space_within_limit (cfg : Cfg) (disk : List (Nat × Bytes)) (hd : (disk.map (·.1)).Nodup) (hdir : cfg.hasDir = true)
    (h0 : diskBytes disk ≤ cfg.maxBytes)
    (ops : List Op) (s : St) (h : run (recover cfg disk) ops = some s) (hl : Legal (recover cfg disk) ops) :
    diskBytes s.disk ≤ cfg.maxBytes := by
  obtain ⟨a, b⟩ := C03_space_bound cfg disk hd hdir ops s h hl
  omega

/-- **C03 (memory bound at quiescent points).** Every queued entry is unloaded; the feeder holds a
loaded chunk in hand only while the window is full; the window holds at most `memCap` chunks. -/
theorem C03_memory_bound (cfg : Cfg) (disk : List (Nat × Bytes)) (ops : List Op) (s : St)
    (h : run (recover cfg disk) ops = some s) :
    (∀ e ∈ s.inQ, e.data = none) ∧ (s.hand ≠ none → s.outW.length = s.cfg.memCap) ∧ s.outW.length ≤ s.cfg.memCap := by
  have hm := run_recover_minv h
  have hw := C03_window_bound cfg disk ops s h
  exact ⟨hm.unl, fun hn => by have := hm.quiet.2 hn; omega, hw⟩

/-- **C03 (recovered first).** The acceptance order of a generation starts with recovered files — a
subsequence, in name order, of the files found — before anything accepted later. -/
theorem C03_recovered_first (cfg : Cfg) (disk : List (Nat × Bytes)) :
    ((recover cfg disk).accepted.map (·.1)).Sublist ((scanned cfg disk).map (·.1)) ∧
    ((scanned cfg disk).map (·.1)).Pairwise (· ≤ ·) := by
  constructor
  · rw [recover_eq, quiesce, settle_accepted, recoverRaw_eq]
    exact (List.take_sublist _ _).map _
  · unfold scanned
    split
    · exact List.pairwise_map.mpr (pairwise_mergeSort_key (·.1) disk)
    · simp

/-! ### non-vacuity: a concrete legal run with a spill, a window overflow, a drop, a hand-back and a restart -/

def demoOps : List Op :=
  [.accept 1 [1, 2], .accept 2 [3], .accept 3 [4], .accept 4 [5, 6], .accept 5 [7], .take, .confirm 1, .take,
   .destroy, .handBack 2, .finish]

def demoCfg : Cfg := { memCap := 2, queueCap := 1, maxBytes := 3, hasDir := true }

example : (run { cfg := demoCfg } demoOps).map (fun s => (s.confirmedG, s.droppedG, s.keptG, s.disk.map (·.1), s.c.gBytes)) =
    some ([1], [4], [3, 5, 2], [2, 3, 5], 3) := rfl

/-- a schedule that is not a quiescing run: two accepts before the feeder moves anything (both stay loaded in the queue) -/
example : ((runI { cfg := { memCap := 2, queueCap := 5, maxBytes := 100, hasDir := true } }
    [.op (.accept 1 [1]), .op (.accept 2 [2]), .feed, .feed, .op .take]).map
    (fun s => (s.taken.map (·.1), s.inQ.map (·.id)))) = some ([1], [2]) := rfl

/-- the demo run ends with 3 bytes of files, exactly the limit: the bound is tight -/
example : (run { cfg := demoCfg } demoOps).map (fun s => diskBytes s.disk) = some 3 := rfl

/-! ### translated conditions (Tie B, semantic form) -/

theorem C03_fact_rules_found : Facts.gen_quota_rule_found = true ∧ Facts.gen_spill_rule_found = true := ⟨rfl, rfl⟩
/-- the quota test translated from `UnloadChunk` decides `Buffer.unload`: an unsaved loaded chunk is written iff the test is false -/
theorem C03_gen_quota_rule (s : St) (e : Entry) (d : Bytes) (hs : e.saved = false) (hd : e.data = some d) (hdir : s.cfg.hasDir = true) :
    (unload s e).2.2 = !Facts.gen_quota_rule s.c.gBytes d.length s.cfg.maxBytes := by
  unfold unload Facts.gen_quota_rule
  simp only [hs, hd, hdir, Bool.false_eq_true, if_false, Bool.not_true]
  by_cases h : s.c.gBytes + (d.length : Int) > (s.cfg.maxBytes : Int) <;> simp [h]
/-- the spill test translated from `Accept` is the model's (`outW.length ≥ memCap / 2`) -/
theorem C03_gen_spill_rule (w cap : Nat) : Facts.gen_spill_rule w cap = decide (w ≥ cap / 2) := by
  unfold Facts.gen_spill_rule
  have : ((2 : Int)) = ((2 : Nat) : Int) := rfl
  rw [this, ← Int.ofNat_tdiv]
  generalize cap / 2 = q
  simp

/-! ### fact obligations (Tie B) -/

/-- `Accept` never waits: its only channel operation is a `select` with a `default` branch that counts the drop -/
theorem C03_fact_accept_nonblocking : Facts.buffer_accept_select = ["case buf.inputChannel <- chunk", "default: OnChunkDropped"] := rfl
/-- the spill rule `NumOutput() >= defs.BufferMaxNumChunksInMemory/2` -/
theorem C03_fact_spill_rule : Facts.buffer_spill_condition = ["buf.feeder.NumOutput() >= defs.BufferMaxNumChunksInMemory/2"] := rfl
/-- recovery runs before the feeder starts -/
theorem C03_fact_start_order : Facts.buffer_start_calls = ["buf.recoverExistingChunks()", "go buf.feeder.Run()"] := rfl
/-- channel capacities are the two `defs` parameters -/
theorem C03_fact_channel_caps : Facts.buffer_channel_caps = ["defs.BufferMaxNumChunksInQueue", "defs.BufferMaxNumChunksInMemory"] := rfl
/-- quota test before the write in `UnloadChunk` -/
theorem C03_fact_quota_check : Facts.buffer_quota_condition = ["op.metrics.persistentChunkBytes.Get()+int64(len(chunkRef.Data)) > op.maxTotalBytes"] := rfl
/-- a hand-back that cannot be saved is dropped (repaired F-3): `OnChunkLeftover` uses `UnloadOrDropChunk` -/
theorem C03_fact_leftover_checked : Facts.buffer_leftover_calls = ["man.UnloadOrDropChunk"] := rfl
/-- shutdown saves the queue, the chunk in hand, then the window -/
theorem C03_fact_save_order : Facts.buffer_save_everything = ["range feeder.inputChannel", "lastInputChunk", "range feeder.outputChannel"] := rfl

end C03
