import SlogModel.Lemmas.E2E
import SlogModel.Lemmas.ClientRefine
import SlogModel.Props.C03
import SlogModel.Lemmas.ClientHealthy
import SlogModel.Props.C18
import SlogModel.Gen.Facts

/-!
  C01 — At-least-once delivery end to end across upstream faults and restarts.

  `E2E.step` is the chunk-level system of one pipeline and one output across generations: read,
  close-and-accept or close-and-drop (counted) a chunk, take-and-transmit, acknowledge, connection
  failure (unacknowledged chunks go back, oldest first), graceful stop (everything unacknowledged is
  saved), restart (saved chunks are recovered in name order).  Each action is the contract proved for a
  component (C11 packing, C03 buffer, C02 client, C04 persistence); the theorems quantify over every
  finite sequence of these actions — every upstream fault script and every stop / restart history.

  * `C01_every_record_accounted` : at every moment each record read is in the chunk being filled or
      in a chunk, and that chunk is queued, in flight, acknowledged, counted as dropped or on disk.
  * `C01_at_rest` : while the agent is stopped every record read is in a chunk that is
      acknowledged, on disk for the next start, or counted as dropped — nothing is only in memory.
  * `C01_drained` : when the running agent has nothing queued or in flight and no open chunk (the
      upstream was finally healthy), every record read is acknowledged or counted as dropped.
  * `C01_chunk_in_one_place` : no chunk is in two places.
  * `C01_client_refines_e2e`, `C01_at_rest_through_client`, `C01_delivered_once_upstream_behaves`,
      `C01_at_rest_after_every_stop_run`, `C01_buffer_hands_chunks_in_id_order`, `C01_buffer_client_refine_e2e` : the same
      with the client (C02) and the buffer (C03) in the loop.
  Tie: the end-to-end harness (real agent, scripted upstream, stop / restart generations) checks the
  conclusion of `C01_drained` / `C01_at_rest` on every run; the component models behind the actions are
  tied by C02 / C03 / C04 / C11.  Records are never altered: C10 / C11 (byte-exact encoding) and the
  harness's comparison of every delivered message with what was sent.
-/

open E2E

namespace C01

/-- **C01 (every record is accounted for, at every moment).** -/
theorem C01_every_record_accounted (acts : List Act) (s : St) (h : run {} acts = some s) (r : Nat) (hr : r < s.nextRec) :
    r ∈ s.cur ∨ ∃ p ∈ s.content, r ∈ p.2 ∧
      (p.1 ∈ s.queue ∨ p.1 ∈ s.inflight ∨ p.1 ∈ s.acked ∨ p.1 ∈ s.dropped ∨ p.1 ∈ s.disk) := by
  have hp := (E2E.reach h).1
  rcases List.mem_append.mp (hp.recs ▸ List.mem_range.mpr hr : r ∈ s.content.flatMap (·.2) ++ s.cur) with h1 | h1
  · obtain ⟨p, hp1, hp2⟩ := List.mem_flatMap.mp h1
    -- the chunk's id is below `nextChunk`, so it is counted once among the places
    have hlt : p.1 < s.nextChunk := List.mem_range.mp (hp.ids ▸ List.mem_map.mpr ⟨p, hp1, rfl⟩)
    have : p.1 ∈ places s := List.count_pos_iff.mp (by rw [hp.chunks, if_pos hlt]; exact Nat.one_pos)
    exact .inr ⟨p, hp1, hp2, by simpa [places, or_assoc] using this⟩
  · exact .inl h1

/-- **C01 (nothing is only in memory while the agent is stopped).** -/
theorem C01_at_rest (acts : List Act) (s : St) (h : run {} acts = some s) (hstop : s.running = false)
    (r : Nat) (hr : r < s.nextRec) :
    ∃ p ∈ s.content, r ∈ p.2 ∧ (p.1 ∈ s.acked ∨ p.1 ∈ s.disk ∨ p.1 ∈ s.dropped) := by
  obtain ⟨hq, hi, hc⟩ := (E2E.reach h).1.nr hstop
  rcases C01_every_record_accounted acts s h r hr with h1 | ⟨p, hp1, hp2, h3⟩
  · rw [hc] at h1; cases h1
  · refine ⟨p, hp1, hp2, ?_⟩
    simp only [hq, hi, List.not_mem_nil, false_or] at h3
    rcases h3 with h | h | h
    · exact .inl h
    · exact .inr (.inr h)
    · exact .inr (.inl h)

/-- **C01 (at least once).** Once the upstream has been healthy long enough for the running agent
to drain — no open chunk, nothing queued, nothing in flight — every record read has been acknowledged
by the upstream, except those in chunks counted as dropped. -/
theorem C01_drained (acts : List Act) (s : St) (h : run {} acts = some s) (hrun : s.running = true)
    (hc : s.cur = []) (hq : s.queue = []) (hi : s.inflight = []) (r : Nat) (hr : r < s.nextRec) :
    ∃ p ∈ s.content, r ∈ p.2 ∧ (p.1 ∈ s.acked ∨ p.1 ∈ s.dropped) := by
  have hd := (E2E.reach h).1.rd hrun
  rcases C01_every_record_accounted acts s h r hr with h1 | ⟨p, hp1, hp2, h3⟩
  · rw [hc] at h1; cases h1
  · exact ⟨p, hp1, hp2, by simpa [hq, hi, hd] using h3⟩

/-- **C01 (a chunk is in exactly one place).** -/
theorem C01_chunk_in_one_place (acts : List Act) (s : St) (h : run {} acts = some s) (c : Nat) :
    (s.queue ++ s.inflight ++ s.acked ++ s.dropped ++ s.disk).count c = if c < s.nextChunk then 1 else 0 :=
  (E2E.reach h).1.chunks c

/-! ### non-vacuity: faults, a stop with a chunk in flight, a restart, a healthy end -/

def demoActs : List Act := [.read, .read, .flushAccept, .read, .flushAccept, .take, .take, .ack 1, .connFail, .read, .stop,
    .restart, .take, .ack 0, .take, .ack 2]

example : (run ({} : St) demoActs).map (·.acked) = some [1, 0, 2] := rfl
example : (run ({} : St) demoActs).map (·.sentLog) = some [(0, 0), (0, 1), (2, 0), (2, 2)] := rfl
example : (run ({} : St) demoActs).map (fun s => s.queue ++ s.inflight ++ s.disk) = some [] := rfl

/-- a transmitted chunk and a queued chunk given up later (unreadable file, size limit at hand-back) are counted, not forgotten -/
example : (run ({} : St) [.read, .flushAccept, .read, .flushAccept, .take, .drop 0, .drop 1]).map (fun s => (s.queue, s.inflight, s.dropped)) =
    some ([], [], [0, 1]) := rfl

/-! ### refinement: the client transition system implements the client-side actions of `E2E.step`

`E2E.step` assumes of the forwarding client that a chunk it takes is the oldest one waiting, that an
acknowledgement removes exactly the acknowledged chunk, that after a failed connection everything
unacknowledged goes back oldest first ahead of everything newer, and that a stop leaves everything
unacknowledged for the disk.  These are consequences of the client model: for every run of `Client.step` (every
interleaving of sender, acknowledger and worker loop with every outcome of connect / send / ACK read) the
chunk-level view of the client state (`ClientRefine.Rel`: waiting = `queue`, held by the session =
`inflight`, confirmations = `acked`, handed back + never taken = `disk`) moves exactly as `E2E.step`
does under `ClientRefine.mapAct` — each client action is invisible or one of take / ack / connFail / stop. -/

open ClientRefine in
/-- **C01 (the client refines the chunk-level system).** -/
theorem C01_client_refines_e2e (q : List Nat) (hq : q.Pairwise (· < ·)) (acts : List Client.Act) (c : Client.St)
    (h : Client.run (Client.init q) acts = some c)
    (e0 : St) (hr : e0.running = true) (hc : e0.cur = []) (hi : e0.inflight = []) (hq0 : e0.queue = q) :
    ∃ e, run e0 (mapRun (Client.init q) acts) = some e ∧ Rel e0.acked c e ∧
      (mapRun (Client.init q) acts).length ≤ acts.length :=
  let ⟨e, h1, h2⟩ := sim_run e0.acked acts (Client.init q) c e0 h (init_all q hq) (rel_init q e0 hr hc hi hq0)
  ⟨e, h1, h2, mapRun_length acts _⟩

open ClientRefine in
/-- **C01 (at rest, with the real client in the loop).** Whatever the agent did before (`pre`: any history of reads,
flushes, drops, earlier faults and generations) and whatever the client then does with the chunks queued for it — any
run of `Client.step` up to `OnFinished` — every record read so far is in a chunk that the upstream acknowledged (before or
through this client), that the client handed back or never took (so that the buffer saves it), or that was counted as dropped. -/
theorem C01_at_rest_through_client (pre : List Act) (e0 : St) (hpre : run {} pre = some e0)
    (hr : e0.running = true) (hc : e0.cur = []) (hi : e0.inflight = []) (hq : e0.queue.Pairwise (· < ·))
    (acts : List Client.Act) (c : Client.St) (h : Client.run (Client.init e0.queue) acts = some c) (hfin : c.finished = true)
    (r : Nat) (hrec : r < e0.nextRec) :
    ∃ p ∈ e0.content, r ∈ p.2 ∧
      (p.1 ∈ e0.acked ∨ p.1 ∈ c.confirmed ∨ p.1 ∈ c.handed ∨ p.1 ∈ c.queue ∨ p.1 ∈ e0.dropped) := by
  obtain ⟨e, h1, hrel, _⟩ := C01_client_refines_e2e e0.queue hq acts c h e0 hr hc hi rfl
  have hfr := run_frame _ e0 e h1 (mapRun_clientSide acts _) hc
  have hrun := E2E.run_trans hpre h1
  obtain ⟨hstop, _, _, hdisk⟩ := hrel.fin hfin
  obtain ⟨p, hp1, hp2, hp3⟩ := C01_at_rest _ e hrun hstop r (by rw [hfr.nextRec]; exact hrec)
  refine ⟨p, by rw [← hfr.content]; exact hp1, hp2, ?_⟩
  rw [hrel.acked, hdisk, hfr.dropped] at hp3
  simpa only [List.mem_append, or_assoc] using hp3

/-- non-vacuity: a client run with a failed connection, a resend and a stop, mapped to its chunk-level run -/
def demoClient : List Client.Act :=
  [.connectOk, .recoveryDone, .takeInput, .sendOk, .pushAck, .takeInput, .sendOk, .ackRecv, .ackErr, .beginCollect,
   .finishCollect, .connectOk, .takeLeft, .sendOk, .pushAck, .ackRecv, .ackOk none, .stopReq, .beginCollect, .ackChanClosed,
   .finishCollect, .workerFinal]

/-- `List.mergeSort` is defined by well-founded recursion: the run is unfolded by `simp`, once -/
theorem mapRun_demoClient :
    ClientRefine.mapRun (Client.init [0, 1, 2]) demoClient = [.take, .take, .connFail, .take, .ack 0, .connFail, .stop] := by
  simp [demoClient, ClientRefine.mapRun, ClientRefine.mapAct, Client.step, Client.init, Client.newLeft, Client.dedupSorted, Client.ackCap,
    List.mergeSort, List.MergeSort.Internal.splitInTwo]

example : ClientRefine.mapRun (Client.init [0, 1, 2]) demoClient = [.take, .take, .connFail, .take, .ack 0, .connFail, .stop] :=
  mapRun_demoClient
example : (Client.run (Client.init [0, 1, 2]) demoClient).map (fun c => (c.confirmed, c.handed, c.queue, c.finished)) =
    some ([0], [1], [2], true) := by
  simp [demoClient, Client.run, Client.step, Client.init, Client.newLeft, Client.dedupSorted, Client.ackCap, List.mergeSort,
    List.MergeSort.Internal.splitInTwo]
example : (run { queue := [0, 1, 2] } (ClientRefine.mapRun (Client.init [0, 1, 2]) demoClient)).map (fun e => (e.acked, e.disk, e.running)) =
    some ([0], [1, 2], false) := by
  rw [mapRun_demoClient]; rfl

/-! ### at least once, without assuming the drained state

`C01_drained` takes "nothing queued, nothing in flight" as a hypothesis.  With the refinement and the bounded fault-free
future of the client (`C02.healthy_run`, `C02.healthy_stuck`) that state is a consequence: -/

open ClientRefine in
/-- **C01 (at least once, once the upstream behaves).** Whatever happened before — `pre`: reads, flushes, drops, earlier
generations; `cpre`: any run of the client with any faults, ending in a good state (between two sessions, or in a session in
which nothing has failed yet) — if from then on the upstream behaves, then after every fault-free run of the client that
cannot be continued (every such run is at most `C02.mu` steps long, under every interleaving), every record read so far is in
a chunk the upstream has acknowledged, or in one that was counted as dropped. -/
theorem C01_delivered_once_upstream_behaves (pre : List Act) (e0 : St) (hpre : run {} pre = some e0)
    (hr : e0.running = true) (hc : e0.cur = []) (hi : e0.inflight = []) (hq : e0.queue.Pairwise (· < ·))
    (cpre : List Client.Act) (c : Client.St) (h1 : Client.run (Client.init e0.queue) cpre = some c) (hg : C02.Good c)
    (acts : List Client.Act) (hacts : ∀ a ∈ acts, a ∈ C02.healthy) (c' : Client.St) (h2 : Client.run c acts = some c')
    (hstuck : ∀ a ∈ C02.healthy, Client.step c' a = none)
    (r : Nat) (hrec : r < e0.nextRec) :
    ∃ p ∈ e0.content, r ∈ p.2 ∧ (p.1 ∈ e0.acked ∨ p.1 ∈ c'.confirmed ∨ p.1 ∈ e0.dropped) := by
  obtain ⟨g', _⟩ := C02.healthy_run acts c c' hacts h2 hg
  obtain ⟨hl, hq', hin⟩ := C02.healthy_stuck c' g' hstuck
  have hrunc := Client.run_trans h1 h2
  obtain ⟨e, he, hrel, _⟩ := C01_client_refines_e2e e0.queue hq (cpre ++ acts) c' hrunc e0 hr hc hi rfl
  have hfr := run_frame _ e0 e he (mapRun_clientSide (cpre ++ acts) _) hc
  have hrun := E2E.run_trans hpre he
  obtain ⟨erun, eq, ein⟩ := hrel.run g'.fin
  obtain ⟨hh, hw⟩ := held_waiting_nil_of_inflight_nil c' hin hq'
  obtain ⟨p, hp1, hp2, hp3⟩ := C01_drained _ e hrun erun hfr.cur (by rw [eq, hw]) (by rw [ein, hh]) r (by rw [hfr.nextRec]; exact hrec)
  refine ⟨p, by rw [← hfr.content]; exact hp1, hp2, ?_⟩
  rw [hrel.acked, hfr.dropped] at hp3
  simpa only [List.mem_append, or_assoc] using hp3

open ClientRefine in
/-- **C01 / C18 (nothing only in memory after a stop, however the stop path is walked).** After any history, any faulty client
run and a stop request: every run of the stop path's actions that cannot be continued (each has at most six steps) ends with the
client finished, and every record read so far is then in a chunk acknowledged, handed back or never taken (for the buffer to
save), or counted as dropped. -/
theorem C01_at_rest_after_every_stop_run (pre : List Act) (e0 : St) (hpre : run {} pre = some e0)
    (hr : e0.running = true) (hc : e0.cur = []) (hi : e0.inflight = []) (hq : e0.queue.Pairwise (· < ·))
    (cpre : List Client.Act) (c : Client.St) (h1 : Client.run (Client.init e0.queue) cpre = some c) (hstop : c.stop = true)
    (acts : List Client.Act) (hacts : ∀ a ∈ acts, a ∈ C18.stopActs) (c' : Client.St) (h2 : C18.runS c acts = some c')
    (hstuck : ∀ a ∈ C18.stopActs, C18.stepS c' a = none)
    (r : Nat) (hrec : r < e0.nextRec) :
    ∃ p ∈ e0.content, r ∈ p.2 ∧
      (p.1 ∈ e0.acked ∨ p.1 ∈ c'.confirmed ∨ p.1 ∈ c'.handed ∨ p.1 ∈ c'.queue ∨ p.1 ∈ e0.dropped) := by
  have hfin := (C18.C18_every_stop_run_ends_finished c hstop acts hacts c' h2).2 hstuck
  have hrun := Client.run_trans h1 (C18.runS_run acts c c' h2)
  exact C01_at_rest_through_client pre e0 hpre hr hc hi hq (cpre ++ acts) c' hrun hfin r hrec

/-! ### the interface between buffer and client: what the consumer receives is what `Client.init` is given -/

/-- **C01 (the buffer hands chunks to the client oldest first).** When the ids of the chunks a generation of the buffer
recovered and accepted increase (file names in order, C03_recovered_first; fresh ids above everything older,
C11_ids_increasing), the ids the consumer receives increase strictly — after any operation sequence, spills, reloads from
disk and drops included.  This is the precondition `hq` of the refinement theorem. -/
theorem C01_buffer_hands_chunks_in_id_order (cfg : Buffer.Cfg) (disk : List (Nat × Bytes)) (ops : List Buffer.Op) (b : Buffer.St)
    (h : Buffer.run (Buffer.recover cfg disk) ops = some b) (hacc : (b.accepted.map (·.1)).Pairwise (· < ·)) :
    (b.taken.map (·.1)).Pairwise (· < ·) :=
  List.Pairwise.sublist (C03.C03_taken_in_order cfg disk ops b h) hacc

open ClientRefine in
/-- **C01 (buffer, then client, then the chunk-level system).** Whatever the buffer did and whatever the client does with
the chunks it received from it — any run of `Client.step` — the chunk-level view of the client moves as `E2E.step` does. -/
theorem C01_buffer_client_refine_e2e (cfg : Buffer.Cfg) (disk : List (Nat × Bytes)) (ops : List Buffer.Op) (b : Buffer.St)
    (h : Buffer.run (Buffer.recover cfg disk) ops = some b) (hacc : (b.accepted.map (·.1)).Pairwise (· < ·))
    (acts : List Client.Act) (c : Client.St) (hc : Client.run (Client.init (b.taken.map (·.1))) acts = some c)
    (e0 : St) (hr : e0.running = true) (hcur : e0.cur = []) (hi : e0.inflight = []) (hq0 : e0.queue = b.taken.map (·.1)) :
    ∃ e, run e0 (mapRun (Client.init (b.taken.map (·.1))) acts) = some e ∧ Rel e0.acked c e :=
  let ⟨e, h1, h2, _⟩ := C01_client_refines_e2e _ (C01_buffer_hands_chunks_in_id_order cfg disk ops b h hacc) acts c hc e0 hr hcur hi hq0
  ⟨e, h1, h2⟩

/-- non-vacuity of `hacc`: a generation that accepted chunks 1, 2 and 3; the consumer has received 1 and 2 -/
example : ((Buffer.run (Buffer.recover { memCap := 4, queueCap := 10, maxBytes := 100, hasDir := true } [])
              [.accept 1 [7], .accept 2 [8], .accept 3 [9], .take, .take]).map (fun b => (b.accepted.map (·.1), b.taken.map (·.1)))) =
    some ([1, 2, 3], [1, 2]) := by
  have h0 : Buffer.scanned { memCap := 4, queueCap := 10, maxBytes := 100, hasDir := true } [] = [] := by
    simp [Buffer.scanned]
  simp only [Buffer.recover, h0, List.foldl_nil]
  decide

/-! ### fact obligations (Tie B): the mechanisms behind the actions of `E2E.step` -/

/-- `connFail`: the chunk in hand, the acknowledger's channel and pending map and the leftovers not yet resent all go back -/
theorem C01_fact_nothing_forgotten : Facts.client_last_chunk_assignments =
    ["resendLeftovers:&chunk", "resendLeftovers:nil(after-send=true,after-failure-return=true)",
     "processInput:&chunk", "processInput:nil(after-send=true,after-failure-return=true)"] ∧
    Facts.client_leftover_sources = ["fromPrevious...", "fromAckerChannel...", "fromAckerPending...", "*session.lastChunk"] ∧
    Facts.stop_resend_collects_previous = ["collectLeftovers(leftovers, endImmediately)", "collectLeftovers(leftovers, endImmediately)"] := ⟨rfl, rfl, rfl⟩
/-- `stop`: the listener flushes and closes every connection's sink, also on the stop path -/
theorem C01_fact_listener_final_flush : Facts.e2e_listener_final_flush = ["mlineReader.FlushAll", "recvChan.Flush", "recvChan.Close"] := rfl
/-- `restart`: pipelines are re-created for the queue directories of every output -/
theorem C01_fact_recovery_all_outputs : Facts.e2e_recovery_scans = ["range args.OutputBufferPairs", "ListBufferIDs"] := rfl
/-- `stop` in the buffer: queue, chunk in hand and window are saved; a hand-back that cannot be saved is counted dropped -/
theorem C01_fact_buffer_saves : Facts.buffer_save_everything = ["range feeder.inputChannel", "lastInputChunk", "range feeder.outputChannel"] ∧
    Facts.buffer_leftover_calls = ["man.UnloadOrDropChunk"] := ⟨rfl, rfl⟩

end C01
