import SlogModel.Lemmas.Dist
import SlogModel.Gen.Facts

/-!
  C05 (from the connection handler to the pipeline channel) — `Model/Dist.lean`.

  * `C05_path_keeps_order` : under every interleaving of parsing, hand-over and flushing on any number of
      connections, what the pipeline channel of a key set has received from a connection is, in order, a
      subsequence of what was parsed on that connection for that key set, and a prefix of what was not discarded.
  * `C05_path_complete_when_flushed` : once the connection's buffers are empty (the listener flushes before
      it closes a sink), the channel has received all of it.
  * the timeout branch of `channelInputBuffer.Flush` (a batch discarded when the pipeline channel stays full) is the
      action `cdiscard`: the order theorem holds with it (a subsequence of what was parsed, a prefix of what was not
      discarded); prefix of everything and completeness hold when no flush timed out.
  Tied to the code by five regenerated source facts (append / whole-buffer hand-over / per-record loop /
  copy-and-send; `C05_fact_cache_flush` pins the timeout branch and that nothing else discards records).
-/

namespace C05
open Dist

/-- what was parsed on connection `c` for key set `k` and not discarded, in order, is: what the channel of `k` received
from `c`, then the connection's buffer for `k`, then what still waits in the connection's first buffer -/
structure DInv (s : St) : Prop where
  ord : ∀ c k, (s.chan k).filter (fun r => r.conn = c) ++ s.cache c k ++ (s.b1 c).filter (fun r => r.key = k) = s.kept c k
  sub : ∀ c k, (s.kept c k).Sublist ((s.hist c).filter (fun r => r.key = k))
  whole : s.discards = 0 → ∀ c k, s.kept c k = (s.hist c).filter (fun r => r.key = k)
  b1_conn : ∀ c, ∀ r ∈ s.b1 c, r.conn = c
  cache_conn : ∀ c k, ∀ r ∈ s.cache c k, r.conn = c

/-- `[r]` at the index `(r.conn, r.key)`, nothing elsewhere -/
def hit (r : R) (c k : Nat) : List R := if c = r.conn ∧ k = r.key then [r] else []

theorem upd_snoc_filter (f : Nat → List R) (r : R) (c k : Nat) :
    (upd f r.conn (f r.conn ++ [r]) c).filter (fun x => x.key = k) = (f c).filter (fun x => x.key = k) ++ hit r c k := by
  unfold hit; rw [upd_apply]
  by_cases hc : c = r.conn
  · subst hc
    by_cases hk : k = r.key
    · subst hk; simp [List.filter_append]
    · simp [List.filter_append, hk, Ne.symm hk]
  · simp [hc]

theorem upd2_snoc (g : Nat → Nat → List R) (r : R) (c k : Nat) :
    upd2 g r.conn r.key (g r.conn r.key ++ [r]) c k = g c k ++ hit r c k := by
  unfold hit; rw [upd2_apply]; split
  · rename_i h; rw [h.1, h.2]
  · rw [List.append_nil]

theorem filter_of_head (f : Nat → List R) (r : R) (rest : List R) (hb : f r.conn = r :: rest) (c k : Nat) :
    (f c).filter (fun x => x.key = k) = hit r c k ++ (upd f r.conn rest c).filter (fun x => x.key = k) := by
  unfold hit; rw [upd_apply]
  by_cases hc : c = r.conn
  · subst hc
    by_cases hk : k = r.key
    · subst hk; simp [hb]
    · simp [hb, hk, Ne.symm hk]
  · simp [hc]

theorem filter_conn_cache {s : St} (hi : DInv s) (c k c' : Nat) :
    (s.cache c k).filter (fun r => r.conn = c') = if c' = c then s.cache c k else [] := by
  split
  · subst c'; exact List.filter_eq_self.mpr fun x hx => by simp [hi.cache_conn c k x hx]
  · rename_i hne
    exact List.filter_eq_nil_iff.mpr fun x hx => by simp [hi.cache_conn c k x hx, Ne.symm hne]

theorem cflush_view {s : St} (hi : DInv s) (c0 k0 c k : Nat) :
    (upd s.chan k0 (s.chan k0 ++ s.cache c0 k0) k).filter (fun r => r.conn = c) ++ upd2 s.cache c0 k0 [] c k =
      (s.chan k).filter (fun r => r.conn = c) ++ s.cache c k := by
  rw [upd_apply, upd2_apply]
  by_cases hk : k = k0
  · subst hk
    rw [if_pos rfl, List.filter_append, filter_conn_cache hi]
    by_cases hc : c = c0
    · subst hc; simp
    · simp [hc]
  · simp [hk]

theorem step_dinv {s s' : St} {a : Act} (h : step s a = some s') (hi : DInv s) : DInv s' := by
  -- one goal per enabled branch of `step`, in its order: accept, move (with a record waiting), cflush, cdiscard
  revert h
  fun_cases step s a <;> intro h <;> cases h
  next r =>
    -- the view of `(c, k)` gets `hit r c k` at the end of what waits, of what was kept and of what was parsed
    refine ⟨fun c k => ?_, fun c k => ?_, fun hd c k => ?_, forall_upd hi.b1_conn ?_, hi.cache_conn⟩
    · show _ ++ _ ++ (upd _ _ _ c).filter _ = upd2 _ _ _ _ c k
      rw [upd_snoc_filter, upd2_snoc, ← List.append_assoc, hi.ord]
    · show (upd2 _ _ _ _ c k).Sublist ((upd _ _ _ c).filter _)
      rw [upd_snoc_filter, upd2_snoc]; exact (hi.sub c k).append (List.Sublist.refl _)
    · show upd2 _ _ _ _ c k = (upd _ _ _ c).filter _
      rw [upd_snoc_filter, upd2_snoc, hi.whole hd]
    · exact forall_mem_snoc (hi.b1_conn _) rfl
  next c0 r rest hb =>
    obtain rfl : r.conn = c0 := hi.b1_conn c0 r (hb ▸ List.mem_cons_self)
    -- `r` leaves the front of what waits and joins the end of the connection's buffer for its key set
    refine ⟨fun c k => ?_, hi.sub, hi.whole, forall_upd hi.b1_conn ?_, forall_upd2 hi.cache_conn ?_⟩
    · show _ ++ upd2 _ _ _ _ c k ++ (upd _ _ _ c).filter _ = _
      rw [upd2_snoc, ← hi.ord c k, filter_of_head s.b1 r rest hb c k]
      simp only [List.append_assoc]
    · exact fun x hx => hi.b1_conn _ x (hb ▸ List.mem_cons_of_mem _ hx)
    · exact forall_mem_snoc (hi.cache_conn _ _) rfl
  next c0 k0 =>
    refine ⟨fun c k => ?_, hi.sub, hi.whole, hi.b1_conn, forall_upd2 hi.cache_conn nofun⟩
    show (upd _ _ _ k).filter _ ++ upd2 _ _ _ _ c k ++ _ = _
    rw [cflush_view hi, hi.ord]
  next c0 k0 =>
    refine ⟨fun c k => ?_, fun c k => ?_, nofun, hi.b1_conn, forall_upd2 hi.cache_conn nofun⟩
    · show _ ++ upd2 _ _ _ _ c k ++ _ = upd2 _ _ _ _ c k
      rw [upd2_apply, upd2_apply]
      split
      · rename_i e; rw [e.1, e.2, List.append_nil]
      · exact hi.ord c k
    · show (upd2 _ _ _ _ c k).Sublist _
      rw [upd2_apply]
      split
      · rename_i e
        rw [e.1, e.2]
        refine List.Sublist.trans ?_ (hi.sub c0 k0)
        rw [← hi.ord c0 k0]
        exact (List.sublist_append_left _ _).append (List.Sublist.refl _)
      · exact hi.sub c k

theorem path_reach {as : List Act} {s : St} (h : run {} as = some s) : DInv s :=
  runOpt_inv step_dinv (run_eq_runOpt ▸ h)
    (⟨fun _ _ => rfl, fun _ _ => .refl _, fun _ _ _ => rfl, fun _ _ => nofun, fun _ _ _ => nofun⟩ : DInv {})

/-- **C05 (the path keeps the order).** Under every interleaving of parsing, hand-over, flushing and discarding (a flush
that times out on a full channel) on any number of connections: what the pipeline channel of a key set has received from a
connection is, in order, a subsequence of what was parsed on that connection for that key set — a prefix of the records
that were not discarded. -/
theorem C05_path_keeps_order (as : List Act) (s : St) (h : run {} as = some s) (c k : Nat) :
    ((s.chan k).filter (fun r => r.conn = c)).Sublist ((s.hist c).filter (fun r => r.key = k)) ∧
    (s.chan k).filter (fun r => r.conn = c) <+: s.kept c k := by
  have hi := path_reach h
  have hp : (s.chan k).filter (fun r => r.conn = c) <+: s.kept c k := by
    rw [← hi.ord c k, List.append_assoc]; exact List.prefix_append _ _
  exact ⟨List.Sublist.trans hp.sublist (hi.sub c k), hp⟩

/-- when no flush ever timed out it is a prefix of everything parsed -/
theorem C05_path_prefix_without_discards (as : List Act) (s : St) (h : run {} as = some s) (hd : s.discards = 0) (c k : Nat) :
    (s.chan k).filter (fun r => r.conn = c) <+: (s.hist c).filter (fun r => r.key = k) := by
  have hi := path_reach h
  rw [← hi.whole hd c k]
  exact (C05_path_keeps_order as s h c k).2

/-- **C05 (nothing stays behind once flushed).** -/
theorem C05_path_complete_when_flushed (as : List Act) (s : St) (h : run {} as = some s) (c k : Nat)
    (h1 : s.b1 c = []) (h2 : s.cache c k = []) (hd : s.discards = 0) :
    (s.chan k).filter (fun r => r.conn = c) = (s.hist c).filter (fun r => r.key = k) := by
  have hi := path_reach h
  have := hi.ord c k
  rw [h1, h2, hi.whole hd c k] at this
  simpa using this

/-- non-vacuity: two connections, two key sets, a discarded batch in the middle — the order of what arrives is kept -/
example : (run {} [.accept ⟨0, 7, 1⟩, .accept ⟨1, 7, 2⟩, .accept ⟨0, 7, 3⟩, .move 0, .cflush 0 7, .move 0, .cdiscard 0 7,
                   .accept ⟨0, 7, 4⟩, .move 0, .move 1, .cflush 1 7, .cflush 0 7]).map (fun s => ((s.chan 7).map (·.id), s.discards)) =
    some ([1, 2, 4], 1) := rfl

example : (run {} [.accept ⟨1, 7, 0⟩, .accept ⟨2, 7, 1⟩, .accept ⟨1, 8, 2⟩, .move 2, .cflush 2 7, .move 1, .accept ⟨1, 7, 3⟩,
    .move 1, .cflush 1 7, .move 1, .cflush 1 7]).map (fun s => ((s.chan 7).map (·.id), (s.cache 1 8).map (·.id))) =
    some ([1, 0, 3], [2]) := rfl

/-! ### fact obligations (Tie B) -/

theorem C05_fact_parse_sink_accept : Facts.dist_parse_sink_accept =
    ["record := sess.parser.Parse(lines, sess.now)", "if record == nil { return }",
     "sess.bufferedLogs = append(sess.bufferedLogs, record)", "sess.bufferedBytes += record.RawLength",
     "if sess.bufferedBytes >= defs.IntermediateBufferMaxTotalBytes || len(sess.bufferedLogs) >= defs.IntermediateBufferMaxNumLogs { sess.sendBuffer() }"] := rfl
theorem C05_fact_parse_sink_send : Facts.dist_parse_sink_send =
    ["sess.outputSink.Accept(sess.bufferedLogs)", "sess.bufferedLogs = sess.bufferedLogs[:0]", "sess.bufferedBytes = 0"] := rfl
theorem C05_fact_orch_accept : Facts.dist_orch_accept =
    ["for _, record := range buffer", "tempKeySet := keySetExtractor.Extract(record)",
     "cache := workerMap.GetOrCreate(tempKeySet, oc.onNewLinkToPipeline)",
     "if cache.Append(record) { cache.Flush(now, oc.logger, tempKeySet) }"] := rfl
theorem C05_fact_cache_append : Facts.dist_cache_append = ["cache.PendingLogs = append(cache.PendingLogs, record)"] := rfl
theorem C05_fact_cache_flush : Facts.dist_cache_flush =
    ["pendingLogs := cache.PendingLogs", "reusableLogBuffer := bsupport.CopyLogBuffer(pendingLogs)",
     "cache.PendingLogs = pendingLogs[:0]", "cache.PendingBytes = 0", "cache.LastFlushTime = now",
     "case cache.Channel <- reusableLogBuffer", "case <-time.After(defs.IntermediateChannelTimeout)"] := rfl

end C05
