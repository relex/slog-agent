import SlogModel.Model.Time
import SlogModel.Lemmas.Bytes
import SlogModel.Gen.Facts

/-!
  C13 — Timestamps are parsed exactly and parsing is total.

  * `C13_total`      : for every byte string the statement-level model returns a value (no panic)
                       and it is the pattern-matching model `Time.parse`.
  * `C13_exact`      : for every valid RFC 3339 timestamp (0–9 fraction digits, `Z`, `±hh:mm`,
                       `±hhmm`), parsing its rendering yields exactly the denoted instant.
  * `C13_malformed_short`, `C13_malformed_separator` : shorter than 19 bytes (empty, NIL `-`, truncated) or a wrong
                       separator ⇒ error;
  * `C13_transform_error_counted` : an error is counted and the fallback time is kept.
-/

namespace C13
open Time

inductive Off where
  | z
  | colon (neg : Bool) (hh mm : Nat)      -- ±hh:mm
  | compact (neg : Bool) (hh mm : Nat)    -- ±hhmm
  deriving DecidableEq, Repr

structure TS where
  y : Nat
  mo : Nat
  d : Nat
  h : Nat
  mi : Nat
  s : Nat
  frac : List Nat        -- fraction digits (values 0..9), at most nine
  off : Off
  deriving Repr

def Off.Valid : Off → Prop
  | .z => True
  | .colon _ hh mm => hh < 24 ∧ mm < 60
  | .compact _ hh mm => hh < 24 ∧ mm < 60

/-- calendar ranges; the day-of-month upper bound is not needed for exactness (the formula is
linear in the day), so only `1 ≤ d ≤ 31` is required. -/
def TS.Valid (t : TS) : Prop :=
  t.y ≤ 9999 ∧ 1 ≤ t.mo ∧ t.mo ≤ 12 ∧ 1 ≤ t.d ∧ t.d ≤ 31 ∧ t.h ≤ 23 ∧ t.mi ≤ 59 ∧ t.s ≤ 60 ∧
  t.frac.length ≤ 9 ∧ (∀ x ∈ t.frac, x ≤ 9) ∧ t.off.Valid

def d2 (n : Nat) : Bytes := [48 + n / 10, 48 + n % 10]
def d4 (n : Nat) : Bytes := [48 + n / 1000, 48 + n / 100 % 10, 48 + n / 10 % 10, 48 + n % 10]

def Off.render : Off → Bytes
  | .z => [90]
  | .colon neg hh mm => [if neg then 45 else 43] ++ d2 hh ++ [58] ++ d2 mm
  | .compact neg hh mm => [if neg then 45 else 43] ++ d2 hh ++ d2 mm

def Off.seconds : Off → Int
  | .z => 0
  | .colon neg hh mm => if neg then -(((hh * 60 + mm) * 60 : Nat) : Int) else (((hh * 60 + mm) * 60 : Nat) : Int)
  | .compact neg hh mm => if neg then -(((hh * 60 + mm) * 60 : Nat) : Int) else (((hh * 60 + mm) * 60 : Nat) : Int)

def renderFrac (f : List Nat) : Bytes := if f = [] then [] else 46 :: f.map (48 + ·)

def TS.render (t : TS) : Bytes :=
  d4 t.y ++ [45] ++ d2 t.mo ++ [45] ++ d2 t.d ++ [84] ++ d2 t.h ++ [58] ++ d2 t.mi ++ [58] ++ d2 t.s
    ++ renderFrac t.frac ++ t.off.render

/-- nanoseconds denoted by the fraction digits: digit `i` has weight `10^(8-i)` -/
def fracValue : List Nat → Nat → Nat
  | [], _ => 0
  | x :: xs, w => x * 10 ^ w + fracValue xs (w - 1)

/-- the instant denoted: seconds since the Unix epoch and nanoseconds -/
def TS.instant (t : TS) : Int × Nat :=
  (daysFromCivil t.y t.mo t.d * 86400 + (t.h : Int) * 3600 + (t.mi : Int) * 60 + (t.s : Int)
     - t.off.seconds,
   fracValue t.frac 8)

theorem dig_digit (n : Nat) (h : n ≤ 9) : dig (48 + n) = n := by
  unfold dig; omega

theorem atoi2_d2 (n : Nat) (h : n ≤ 99) : atoi2 (48 + n / 10) (48 + n % 10) = n := by
  unfold atoi2; rw [dig_digit _ (by omega), dig_digit _ (by omega)]; omega

/-- four digits are two pairs of digits, `n = (n / 100)·100 + n % 100`; the quotient identities are core lemmas
(`omega` is slow on `/` and `%`) -/
theorem atoi4_d4 (n : Nat) (h : n ≤ 9999) :
    atoi4 (48 + n / 1000) (48 + n / 100 % 10) (48 + n / 10 % 10) (48 + n % 10) = n := by
  have e : ∀ a b c d, atoi4 a b c d = atoi2 a b * 100 + atoi2 c d := fun a b c d => by unfold atoi4 atoi2; omega
  rw [e, show n / 1000 = n / 100 / 10 from (Nat.div_div_eq_div_mul n 100 10).symm,
    show n / 10 % 10 = n % 100 / 10 from (Nat.mod_mul_right_div_self n 10 10).symm,
    show n % 10 = n % 100 % 10 from (Nat.mod_mod_of_dvd n (by decide : 10 ∣ 100)).symm,
    atoi2_d2 _ (Nat.le_of_lt_succ (Nat.div_lt_of_lt_mul (by omega))),
    atoi2_d2 _ (Nat.le_of_lt_succ (Nat.mod_lt n (by decide))), Nat.div_add_mod' n 100]

theorem off_render_head (o : Off) : ∀ b, o.render.head? = some b → isDigit b = false := by
  intro b
  cases o with
  | z => simp [Off.render]; intro h; subst h; decide
  | colon neg hh mm => cases neg <;> simp [Off.render] <;> intro h <;> subst h <;> decide
  | compact neg hh mm => cases neg <;> simp [Off.render] <;> intro h <;> subst h <;> decide

theorem off_render_ne_nil (o : Off) : o.render ≠ [] := by
  cases o <;> simp [Off.render, d2]

theorem zone_d2 (sg hh mm : Nat) (h1 : hh < 24) (h2 : mm < 60) :
    zone sg (48 + hh / 10) (48 + hh % 10) (48 + mm / 10) (48 + mm % 10) =
      if sg = 43 then some (((hh * 60 + mm) * 60 : Nat) : Int)
      else if sg = 45 then some (-(((hh * 60 + mm) * 60 : Nat) : Int)) else none := by
  unfold zone
  rw [isDigit_digit _ (by omega), isDigit_digit _ (by omega), isDigit_digit _ (by omega), isDigit_digit _ (by omega),
    atoi2_d2 hh (by omega), atoi2_d2 mm (by omega)]
  simp only [Bool.and_self, if_true]
  rw [if_neg (by simp only [Bool.or_eq_true, decide_eq_true_eq]; omega)]

theorem parseTZ_render (o : Off) (h : o.Valid) : parseTZ o.render = some o.seconds := by
  cases o with
  | z => rfl
  | colon neg hh mm =>
    cases neg <;> simp [parseTZ, Off.render, d2, zone_d2 _ hh mm h.1 h.2, Off.seconds]
  | compact neg hh mm =>
    obtain ⟨h1, h2⟩ := h
    -- no digit is the ':' that selects the other layout
    have n (k : Nat) (hk : k < 10) : ¬ 58 = 48 + k := by omega
    have n1 := n (hh / 10) (Nat.div_lt_of_lt_mul (by omega))
    have n2 := n (hh % 10) (Nat.mod_lt _ (by decide))
    have n3 := n (mm / 10) (Nat.div_lt_of_lt_mul (by omega))
    have n4 := n (mm % 10) (Nat.mod_lt _ (by decide))
    cases neg <;> simp [parseTZ, Off.render, d2, zone_d2 _ hh mm h1 h2, Off.seconds, n1, n2, n3, n4]

theorem splitFrac_render (f : List Nat) (hf : ∀ x ∈ f, x ≤ 9) (o : Off) :
    splitFrac (renderFrac f ++ o.render) = (renderFrac f, o.render) := by
  cases f with
  | nil =>
    cases o with
    | z => rfl
    | colon neg hh mm => cases neg <;> rfl
    | compact neg hh mm => cases neg <;> rfl
  | cons x xs =>
    have hd := isDigit_digits (x :: xs) hf
    have ht := List.takeWhile_append_stop isDigit hd (off_render_head o)
    have hr := List.dropWhile_append_stop isDigit hd (off_render_head o)
    simp only [List.map_cons, List.cons_append] at ht hr
    simp [renderFrac, splitFrac, ht, hr]

theorem fracLoop_render (n : Nat) (f : List Nat) (v : Nat) (hl : f.length ≤ n) (hf : ∀ x ∈ f, x ≤ 9) :
    fracLoop n (f.map (48 + ·)) v = v * 10 ^ n + fracValue f (n - 1) := by
  induction n generalizing f v with
  | zero =>
    cases f with
    | nil => simp [fracLoop, fracValue]
    | cons _ _ => simp at hl
  | succ n ih =>
    cases f with
    | nil =>
      have := ih [] (v * 10) (Nat.zero_le _) (by simp)
      simp only [List.map_nil, fracValue, Nat.add_zero] at this ⊢
      rw [fracLoop, this, Nat.pow_succ, Nat.mul_assoc, Nat.mul_comm 10]
    | cons x xs =>
      have := ih xs (v * 10 + x) (by simpa using hl) (fun y hy => hf y (by simp [hy]))
      rw [List.map_cons, fracLoop, dig_digit x (hf x (by simp)), this, fracValue, Nat.pow_succ, Nat.add_mul,
        Nat.mul_assoc, Nat.mul_comm 10, Nat.add_sub_cancel, Nat.add_assoc]

theorem fracNanos_render (f : List Nat) (hl : f.length ≤ 9) (hf : ∀ x ∈ f, x ≤ 9) :
    fracNanos (f.map (48 + ·)) = fracValue f 8 := by
  rw [fracNanos, fracLoop_render 9 f 0 hl hf, Nat.zero_mul, Nat.zero_add]

/-- the day of the month enters `daysFromCivil` linearly.  The quotients are the same on both sides: they are named
before `omega` sees them, which would otherwise reason about each division. -/
theorem daysFromCivil_day (y : Int) (m : Nat) (d : Int) : daysFromCivil y m d = daysFromCivil y m 1 + (d - 1) := by
  unfold daysFromCivil
  simp only []
  generalize (if m ≤ 2 then y - 1 else y) = y'
  generalize y' / 400 = era
  generalize y' - era * 400 = yoe
  generalize yoe / 4 = q4
  generalize yoe / 100 = q100
  generalize (153 * (if m > 2 then (m : Int) - 3 else (m : Int) + 9) + 2) / 5 = q5
  omega

/-- for a month in 1..12 Go's month normalisation does nothing -/
theorem unixOf_valid (y mo d h mi s : Nat) (off : Int) (h1 : 1 ≤ mo) (h2 : mo ≤ 12) :
    unixOf y mo d h mi s off =
      daysFromCivil y mo d * 86400 + (h : Int) * 3600 + (mi : Int) * 60 + (s : Int) - off := by
  have e1 : ((mo : Int) - 1) / 12 = 0 := by omega
  have e2 : (((mo : Int) - 1) % 12).toNat + 1 = mo := by omega
  unfold unixOf
  simp only [e1, e2, Int.add_zero]
  rw [daysFromCivil_day (y : Int) mo (d : Int)]
  omega

theorem parseTail_render (y mo d h mi s : Nat) (f : List Nat) (o : Off)
    (hl : f.length ≤ 9) (hf : ∀ x ∈ f, x ≤ 9) (ho : o.Valid) :
    parseTail y mo d h mi s (renderFrac f ++ o.render) =
      .ok (unixOf y mo d h mi s o.seconds) (fracValue f 8) := by
  unfold parseTail
  rw [splitFrac_render f hf o]
  simp only [parseTZ_render o ho, off_render_ne_nil o, if_false]
  cases f with
  | nil => simp [renderFrac, fracValue]
  | cons x xs =>
    have := fracNanos_render (x :: xs) hl hf
    simp only [List.map_cons] at this
    simp [renderFrac, this]

/-- **C13 (exactness).** For every valid timestamp, parsing its RFC 3339 rendering yields the
instant it denotes, to the nanosecond. -/
theorem C13_exact (t : TS) (hv : t.Valid) :
    parse t.render = .ok t.instant.1 t.instant.2 := by
  obtain ⟨hy, hmo1, hmo2, hd1, hd2, hh, hmi, hs, hfl, hfd, ho⟩ := hv
  have ey := atoi4_d4 t.y hy
  have emo := atoi2_d2 t.mo (by omega)
  have ed := atoi2_d2 t.d (by omega)
  have eh := atoi2_d2 t.h (by omega)
  have emi := atoi2_d2 t.mi (by omega)
  have es := atoi2_d2 t.s (by omega)
  simp only [TS.render, d4, d2, List.cons_append, List.nil_append, parse]
  simp only [ey, emo, ed, eh, emi, es]
  simp only [parseTail_render _ _ _ _ _ _ t.frac t.off hfl hfd ho]
  simp [TS.instant, unixOf_valid _ _ _ _ _ _ _ hmo1 hmo2]

/-- **C13 (totality).** For every byte string the statement-level model of the Go function returns
a value — no index or slice expression can fail — and that value is `parse t`. -/
theorem C13_total (t : Bytes) : parseGo t = .ok (parse t) := by
  rcases t with _ | ⟨a0, _ | ⟨a1, _ | ⟨a2, _ | ⟨a3, _ | ⟨a4, _ | ⟨a5, _ | ⟨a6, _ | ⟨a7, _ | ⟨a8, _ | ⟨a9, _ | ⟨a10, _ | ⟨a11, _ | ⟨a12, _ | ⟨a13, _ | ⟨a14, _ | ⟨a15, _ | ⟨a16, _ | ⟨a17, _ | ⟨a18, rest⟩⟩⟩⟩⟩⟩⟩⟩⟩⟩⟩⟩⟩⟩⟩⟩⟩⟩⟩
  case cons.cons.cons.cons.cons.cons.cons.cons.cons.cons.cons.cons.cons.cons.cons.cons.cons.cons.cons =>
    -- the one case with 19 bytes `a0 … a18` and a rest (the 19 shorter ones close by `rfl` below): on explicit bytes every
    -- index and slice evaluates, except the slice up to `t.length`
    rw [parseGo, slice_to_end _ 19 (Nat.le_add_left 19 _)]
    show _ = Except.ok (if _ then _ else _)
    rw [apply_ite Except.ok]
    rfl
  all_goals rfl

/-- **C13 (malformed ⇒ error).** A string shorter than 19 bytes — empty, the NIL value `-`,
truncated — is an error. -/
theorem C13_malformed_short (t : Bytes) (h : t.length < 19) : parse t = .err :=
  Except.ok.inj ((C13_total t).symm.trans (by rw [parseGo, if_pos h]; rfl))

/-- the five separators of the date-time shape -/
def separatorsOk (t : Bytes) : Bool :=
  t[4]? = some 45 && t[7]? = some 45 && t[10]? = some 84 && t[13]? = some 58 && t[16]? = some 58

/-- **C13 (malformed ⇒ error).** A wrong separator is an error. -/
theorem C13_malformed_separator (t : Bytes) (h : separatorsOk t = false) : parse t = .err := by
  fun_cases parse t
  · rfl
  · rename_i hs
    -- all five separators are right: `separatorsOk` evaluates to `true`
    simp only [Bool.or_eq_true, not_or, decide_not, Bool.not_eq_true', decide_eq_false_iff_not, Decidable.not_not] at hs
    obtain ⟨⟨⟨⟨h4, h7⟩, h10⟩, h13⟩, h16⟩ := hs
    subst h4 h7 h10 h13 h16
    cases h
  · rfl

/-- **C13 (error is counted, fallback kept).** -/
theorem C13_transform_error_counted (v : Bytes) (fs : Int) (fn : Nat) (h : parse v = .err) :
    transform v fs fn = ((fs, fn), true) := by
  simp [transform, h]

theorem C13_transform_ok (v : Bytes) (fs : Int) (fn : Nat) (s : Int) (n : Nat)
    (h : parse v = .ok s n) : transform v fs fn = ((s, n), false) := by
  simp [transform, h]

/-- the code before the F-6 repair panics on the NIL value -/
theorem legacy_panics_on_nil : parseGoLegacyPanics (b!"-") = .error .index := rfl

/-! ### fact obligations (Tie B): what the model assumes about the current source -/

/-- the length guard before the first index expression is `len(t) < 19` -/
theorem C13_fact_min_len : Facts.time_min_len = some 19 := rfl
/-- the fraction loop reads nine digits -/
theorem C13_fact_frac_digits : Facts.time_frac_digits = some 9 := rfl
/-- `Transform` counts every unparsable value (no silent early return) -/
theorem C13_fact_error_counted : Facts.time_error_counted = some true := rfl
/-- the zone cache owns its keys (repaired: a key that was a substring of the record's pooled buffer was overwritten by
later records; `Time.transform` has no state between values, and the correspondence runs sequences through one reused buffer) -/
theorem C13_fact_zone_cache_keys : Facts.time_zone_cache_keys = ["strings.Clone(tzStr)"] := rfl

/-! ### non-vacuity -/

def sampleTS : TS :=
  { y := 2019, mo := 8, d := 15, h := 15, mi := 50, s := 46, frac := [0, 0, 0, 1, 2, 9],
    off := .colon false 3 0 }

example : sampleTS.Valid := by simp [TS.Valid, sampleTS, Off.Valid]
example : sampleTS.render = b!"2019-08-15T15:50:46.000129+03:00" := rfl
example : sampleTS.instant = (1565873446, 129000) := by decide
example : parse (b!"-") = .err := rfl
example : parse (b!"2019X08-15T15:50:46Z") = .err := rfl

end C13
