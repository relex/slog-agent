import SlogModel.Model.Redact
import SlogModel.Lemmas.Bytes
import SlogModel.Gen.Facts

/-!
  C14 — E-mail redaction is complete and touches nothing else.

  * `C14_no_at_unchanged`  : a text without '@' is returned unchanged
  * `C14_spans_ordered`    : the redacted spans are non-empty, ordered, disjoint and inside the text,
                             so the output (`build`) is the text with exactly those spans replaced
                             by `REDACTED` — everything outside them is preserved byte for byte
  * `C14_length`           : the output is as long as the text minus the spans plus eight bytes per span
  * `C14_every_at_examined` : the scan never skips an '@': every '@' with a word character on both
                             sides is inside a redacted span or was rejected by `findStart` (a '/'
                             directly before the local part) or `findEnd` (no dotted domain / number-like)
  * `C14_complete_dotted_partial` : an address `loc@label.d…` of the supported shape whose domain is
                             not number-like has its '@' inside a redacted span, wherever it sits and
                             whatever surrounds it (back-to-back addresses included).
  * `C14_complete_truncated` : the same for a domain cut by the end of the text, before or right after its first dot.
                             Partial: the exact extent of the span is decided by the correspondence oracle
                             (reference redactor written from the property's wording); "number-like" is
                             "purely numeric" (digits and dots only) since the repair of F-22
                             (`C14_numeric_test_is_the_letter`).
-/

namespace C14
open Redact

theorem nextAt_eq_some_iff {s : Bytes} {frm a : Nat} :
    nextAt s frm = some a ↔ frm ≤ a ∧ s[a]? = some 64 ∧ ∀ j, frm ≤ j → j < a → s[j]? ≠ some 64 := by
  simp only [nextAt, Option.map_eq_some_iff, indexByte_eq_some_iff, List.getElem?_drop]
  constructor
  · rintro ⟨k, ⟨h1, h2⟩, rfl⟩
    refine ⟨Nat.le_add_left _ _, Nat.add_comm frm k ▸ h1, fun j hj hjk => ?_⟩
    obtain ⟨i, rfl⟩ := Nat.exists_eq_add_of_le hj
    exact h2 i (by omega)
  · rintro ⟨h, h1, h2⟩
    obtain ⟨k, rfl⟩ := Nat.exists_eq_add_of_le h
    exact ⟨k, ⟨h1, fun j hj => h2 _ (Nat.le_add_right _ _) (by omega)⟩, Nat.add_comm k frm⟩

theorem nextAt_eq_none_iff {s : Bytes} {frm : Nat} : nextAt s frm = none ↔ ∀ a, frm ≤ a → s[a]? ≠ some 64 := by
  simp only [nextAt, Option.map_eq_none_iff, indexByte_eq_none_iff, List.mem_iff_getElem?, List.getElem?_drop, not_exists]
  constructor
  · intro h a ha
    obtain ⟨k, rfl⟩ := Nat.exists_eq_add_of_le ha
    exact h k
  · exact fun h j => h _ (Nat.le_add_right _ _)

/-- **C14 (no '@', no change).** -/
theorem C14_no_at_unchanged (s : Bytes) (h : 64 ∉ s) : redact s = s ∧ (transform s).2 = false := by
  have : nextAt s 0 = none := nextAt_eq_none_iff.mpr fun a _ e => h (List.mem_of_getElem? e)
  simp [redact, transform, spans, this, build]

theorem findStart_bounds (s : Bytes) (ati limit st : Nat) (hl : limit ≤ ati)
    (h : findStart s ati limit = some st) : limit ≤ st ∧ st ≤ ati := by
  revert h
  fun_cases findStart s ati limit
  case case1 => exact fun h => nomatch h
  case case2 back i1 _ =>
    intro h
    obtain rfl : i1 = st := Option.some.inj h
    have hb : back ≤ ((s.take ati).drop limit).reverse.length := List.length_takeWhile_le _ _
    simp only [List.length_reverse, List.length_drop, List.length_take] at hb
    omega

theorem findEnd_bounds (s : Bytes) (ati en : Nat) (ha : ati + 1 < s.length)
    (h : findEnd s ati = some en) : ati + 1 < en ∧ en ≤ s.length := by
  revert h
  -- of the eight branches of `findEnd`, 2 and 5 return the end of the text, 8 a position inside it (its binders are the
  -- model's `after`, `lbl`, `d`, `rest2`, `run` and the shape of what follows the label), the others `none`
  fun_cases findEnd s ati
  case case2 | case5 => intro h; cases h; exact ⟨ha, Nat.le_refl _⟩
  case case8 after lbl _ _ d rest2 _ run _ hd =>
    intro h; cases h
    have h1 := congrArg List.length hd
    have h2 : run.length ≤ rest2.length := List.length_takeWhile_le _ _
    simp only [List.length_drop, List.length_cons, after] at h1
    omega
  all_goals exact fun h => nomatch h

/-- spans are non-empty, start at or after `lo`, are ordered and disjoint, and end inside the text -/
def Ordered (len : Nat) : Nat → List (Nat × Nat) → Prop
  | _, [] => True
  | lo, (st, en) :: r => lo ≤ st ∧ st < en ∧ en ≤ len ∧ Ordered len en r

/-- Stated with the loop's own matcher `loop.match_1`, so that a hypothesis about `found` matches it syntactically:
unifying two different matchers of the same shape is slow. -/
theorem found_bounds (s : Bytes) {sAt sCopied st en : Nat} (hcs : sCopied ≤ sAt) (hlt : sAt + 1 < s.length)
    (h : (if candidate s sAt = true then loop.match_1 (fun _ _ => Option (Nat × Nat)) (findStart s sAt sCopied)
      (findEnd s sAt) (fun st en => some (st, en)) (fun _ _ => none) else none) = some (st, en)) :
    sCopied ≤ st ∧ st ≤ sAt ∧ sAt + 1 < en ∧ en ≤ s.length := by
  split at h
  · cases h1 : findStart s sAt sCopied <;> cases h2 : findEnd s sAt <;> simp [h1, h2] at h
    obtain ⟨rfl, rfl⟩ := h
    exact ⟨(findStart_bounds s sAt sCopied _ hcs h1).1, (findStart_bounds s sAt sCopied _ hcs h1).2,
      (findEnd_bounds s sAt _ hlt h2).1, (findEnd_bounds s sAt _ hlt h2).2⟩
  · cases h

theorem found_eq_none {c : Bool} {a b : Option Nat} (hc : c = true)
    (h : (if c = true then loop.match_1 (fun _ _ => Option (Nat × Nat)) a b (fun st en => some (st, en)) (fun _ _ => none)
      else none) = none) : a = none ∨ b = none := by
  subst hc
  cases a <;> cases b <;> simp_all

theorem loop_ordered (s : Bytes) (fuel sAt sCopied : Nat) (h : sCopied ≤ sAt) :
    Ordered s.length sCopied (loop s fuel sAt sCopied) := by
  -- the six branches of `loop`, in its order: 1 out of fuel; 2 a span found and a next '@'; 3 a span found, no further '@';
  -- 4 nothing found and a next '@'; 5 nothing found, no further '@'; 6 the cursor at the end of the text
  fun_induction loop s fuel sAt sCopied with
  | case2 fuel sAt sCopied hlt _ st en hf a ha ih =>
    have := found_bounds s h hlt hf
    exact ⟨by omega, by omega, by omega, ih (nextAt_eq_some_iff.mp ha).1⟩
  | case3 fuel sAt sCopied hlt _ st en hf =>
    have := found_bounds s h hlt hf
    exact ⟨by omega, by omega, by omega, trivial⟩
  | case4 fuel sAt sCopied _ _ _ a ha ih => exact ih (by have := (nextAt_eq_some_iff.mp ha).1; omega)
  | _ => trivial

/-- **C14 (touches nothing else).** The redacted spans are non-empty, ordered, pairwise disjoint and
lie inside the text; the output is by construction (`build`) the text with exactly these spans
replaced, so every byte outside them is preserved in place and order. -/
theorem C14_spans_ordered (s : Bytes) : Ordered s.length 0 (spans s) := by
  unfold spans
  split
  · exact loop_ordered s _ _ 0 (Nat.zero_le _)
  · trivial

/-- `lo` is added on the left instead of subtracted on the right: every truncated subtraction doubles the work of `omega` -/
theorem build_length (s : Bytes) (sp : List (Nat × Nat)) (lo : Nat) (h : Ordered s.length lo sp)
    (hlo : lo ≤ s.length) :
    (build s sp lo).length + (sp.map (fun p => p.2 - p.1)).sum + lo = s.length + 8 * sp.length := by
  induction sp generalizing lo with
  | nil => simp only [build, List.length_drop, List.map_nil, List.sum_nil, List.length_nil]; omega
  | cons p r ih =>
    obtain ⟨st, en⟩ := p
    obtain ⟨h1, h2, h3, h4⟩ := h
    have := ih en h4 h3
    simp only [build, List.length_append, List.length_take, List.length_drop, List.map_cons, List.sum_cons,
      List.length_cons, show redacted.length = 8 from rfl, Nat.min_eq_left (Nat.sub_le_sub_right (show st ≤ s.length by omega) lo)]
    omega

theorem C14_length (s : Bytes) :
    (redact s).length + ((spans s).map (fun p => p.2 - p.1)).sum = s.length + 8 * (spans s).length :=
  build_length s (spans s) 0 (C14_spans_ordered s) (Nat.zero_le _)

theorem nextAt_min {s : Bytes} {frm a' : Nat} (h : nextAt s frm = some a') {a : Nat} (hf : frm ≤ a)
    (ha : s[a]? = some 64) : a' ≤ a :=
  Nat.le_of_not_lt fun hlt => (nextAt_eq_some_iff.mp h).2.2 a hf hlt ha

theorem candidate_lt (s : Bytes) (a : Nat) (h : candidate s a = true) : a + 1 < s.length := by
  unfold candidate at h
  cases hx : s[a + 1]? with
  | none => simp [hx] at h
  | some c => exact (List.getElem?_eq_some_iff.mp hx).1

theorem loop_examines (s : Bytes) (a : Nat) (ha : s[a]? = some 64) (hc : candidate s a = true)
    (fuel sAt sCopied : Nat) (hf : s.length ≤ fuel + sAt) (hcs : sCopied ≤ sAt) (hsa : sAt ≤ a) :
    (∃ p ∈ loop s fuel sAt sCopied, p.1 ≤ a ∧ a < p.2) ∨
    (∃ lim, lim ≤ a ∧ (findStart s a lim = none ∨ findEnd s a = none)) := by
  have hal := candidate_lt s a hc
  -- Either the span found at `sAt` covers `a`, or `a` is at or after the next '@'; at `a = sAt` with nothing found,
  -- `findStart` or `findEnd` said no.  Branches numbered as in `loop_ordered`.
  fun_induction loop s fuel sAt sCopied with
  | case1 => omega
  | case2 fuel sAt sCopied hlt _ st en hfound a' ha' ih =>
    have := found_bounds s hcs hlt hfound
    by_cases hin : a < en
    · exact .inl ⟨(st, en), by simp, by simp; omega, hin⟩
    · have hle := (nextAt_eq_some_iff.mp ha').1
      rcases ih (by omega) hle (nextAt_min ha' (by omega) ha) with ⟨p, hp, hpa⟩ | h
      · exact .inl ⟨p, List.mem_cons_of_mem _ hp, hpa⟩
      · exact .inr h
  | case3 fuel sAt sCopied hlt _ st en hfound hn =>
    have := found_bounds s hcs hlt hfound
    by_cases hin : a < en
    · exact .inl ⟨(st, en), by simp, by simp; omega, hin⟩
    · exact absurd ha (nextAt_eq_none_iff.mp hn a (by omega))
  | case4 fuel sAt sCopied hlt found hfound a' ha' ih =>
    by_cases heq : a = sAt
    · subst heq
      exact .inr ⟨sCopied, hcs, found_eq_none hc hfound⟩
    · have hle := (nextAt_eq_some_iff.mp ha').1
      exact ih (by omega) (by omega) (nextAt_min ha' (by omega) ha)
  | case5 fuel sAt sCopied hlt found hfound hn =>
    by_cases heq : a = sAt
    · subst heq
      exact .inr ⟨sCopied, hcs, found_eq_none hc hfound⟩
    · exact absurd ha (nextAt_eq_none_iff.mp hn a (by omega))
  | case6 => omega

/-- **C14 (the scan is complete).** Every '@' with a word character on both sides is inside a redacted
span, unless `findStart` (a '/' directly before the local part) or `findEnd` (no dotted domain, or a
number-like one) rejected it. -/
theorem C14_every_at_examined (s : Bytes) (a : Nat) (ha : s[a]? = some 64) (hc : candidate s a = true) :
    (∃ p ∈ spans s, p.1 ≤ a ∧ a < p.2) ∨
    (∃ lim, lim ≤ a ∧ (findStart s a lim = none ∨ findEnd s a = none)) := by
  unfold spans
  cases h0 : nextAt s 0 with
  | none => exact absurd ha (nextAt_eq_none_iff.mp h0 a (Nat.zero_le _))
  | some a0 =>
    exact loop_examines s a ha hc s.length a0 0 (by omega) (Nat.zero_le _) (nextAt_min h0 (Nat.zero_le _) ha)

theorem findEnd_dotted (s : Bytes) (a : Nat) (lbl run post : Bytes) (d : Nat)
    (hs : s.drop (a + 1) = lbl ++ 46 :: d :: (run ++ post))
    (hl : ∀ c ∈ lbl, (isAddr c && c != 46) = true) (hd : isWord d = true) (hr : ∀ c ∈ run, isAddr c = true)
    (hp : ∀ c, post.head? = some c → isAddr c = false)
    (hn : numLike (lbl ++ 46 :: d :: run) = false) :
    findEnd s a = some (a + 1 + lbl.length + 2 + run.length) := by
  unfold findEnd
  simp only [hs]
  have h1 : (lbl ++ 46 :: d :: (run ++ post)).takeWhile (fun c => isAddr c && c != 46) = lbl :=
    List.takeWhile_append_stop _ hl (by intro x hx; simp at hx; subst hx; simp)
  rw [h1, List.drop_left' rfl]
  simp only [ne_eq, not_true_eq_false, if_false, hd, Bool.not_true, Bool.false_eq_true]
  have h2 : (run ++ post).takeWhile isAddr = run := List.takeWhile_append_stop _ hr hp
  rw [h2, hn]
  simp

/-- The scanned region is `pre.drop lim ++ loc.drop (lim - pre.length)` on either side of `lim ≤ pre.length`. -/
theorem findStart_eq (s : Bytes) (a lim : Nat) (pre loc : Bytes) (hs : s.take a = pre ++ loc)
    (hlen : a ≤ s.length) (hloc : ∀ c ∈ loc, isAddr c = true)
    (hpre : ∀ c, pre.getLast? = some c → isAddr c = false ∧ c ≠ 47) (hlim : lim ≤ a) :
    findStart s a lim = some (max pre.length lim) := by
  have ha : a = pre.length + loc.length := by
    have := congrArg List.length hs
    simp only [List.length_take, List.length_append] at this; omega
  have htw : ((pre ++ loc).drop lim).reverse.takeWhile isAddr = (loc.drop (lim - pre.length)).reverse := by
    rw [List.drop_append, List.reverse_append]
    refine List.takeWhile_append_stop _ (fun x hx => hloc x (List.mem_of_mem_drop (List.mem_reverse.mp hx))) fun x hx => ?_
    rw [List.head?_reverse, List.getLast?_drop] at hx
    split at hx
    · cases hx
    · exact (hpre x hx).1
  unfold findStart
  simp only [hs, htw, List.length_reverse, List.length_drop]
  -- the two subtractions are computed by rewriting: `omega` is slow on nested truncated subtraction
  rcases Nat.lt_or_ge pre.length lim with hA | hA
  · -- the scan stops at the limit, inside `loc`: the byte before it is an address character, not '/'
    -- `a - (loc.length - (lim - pre.length)) = lim`, from `a = pre.length + loc.length` and `pre.length < lim ≤ a`
    rw [Nat.max_eq_right (Nat.le_of_lt hA), ha, Nat.add_sub_assoc (Nat.sub_le _ _),
      Nat.sub_sub_self (Nat.sub_le_iff_le_add'.mpr (ha ▸ hlim)), Nat.add_sub_of_le (Nat.le_of_lt hA), if_neg]
    rintro ⟨-, h47⟩
    rw [← List.getElem?_take_of_lt (show lim - 1 < a by omega), hs, List.getElem?_append_right (by omega)] at h47
    exact Bool.false_ne_true (hloc 47 (List.mem_of_getElem? h47))
  · -- the scan stops at the start of `loc`: the byte before it is the last byte of `pre`
    -- `lim - pre.length = 0`, so `a - loc.length = pre.length`
    rw [Nat.max_eq_left hA, Nat.sub_eq_zero_of_le hA, Nat.sub_zero, ha, Nat.add_sub_cancel, if_neg]
    rintro ⟨hpos, h47⟩
    rw [← List.getElem?_take_of_lt (show pre.length - 1 < a by omega), hs, List.getElem?_append_left (by omega),
      ← List.getLast?_eq_getElem?] at h47
    exact (hpre 47 h47).2 rfl

theorem complete_of_findEnd (pre loc dom : Bytes) (w1 w2 : Nat)
    (hloc : ∀ c ∈ loc, isAddr c = true) (hw1 : loc.getLast? = some w1) (hw1' : isWord w1 = true)
    (hpre : ∀ c, pre.getLast? = some c → isAddr c = false ∧ c ≠ 47)
    (hw2 : dom.head? = some w2) (hw2' : isWord w2 = true)
    (hend : ∀ s a, s.drop (a + 1) = dom → findEnd s a ≠ none) :
    ∃ p ∈ spans (pre ++ loc ++ 64 :: dom), p.1 ≤ pre.length + loc.length ∧ pre.length + loc.length < p.2 := by
  -- the '@' is a candidate, so it was examined; `findStart_eq` rules out one rejection, `hend` the other
  obtain ⟨loc', rfl⟩ : ∃ loc', loc = loc' ++ [w1] := by
    obtain ⟨ys, rfl⟩ := List.getLast?_eq_some_iff.mp hw1
    exact ⟨ys, rfl⟩
  obtain ⟨dom', rfl⟩ : ∃ dom', dom = w2 :: dom' := by
    cases dom with
    | nil => cases hw2
    | cons x r => cases hw2; exact ⟨r, rfl⟩
  -- the text is `(pre ++ loc') ++ w1 :: 64 :: w2 :: dom'`; with `n = (pre ++ loc').length` the '@' is at `n + 1`
  rw [show pre.length + (loc' ++ [w1]).length = (pre ++ loc').length + 1 by
    simp only [List.length_append, List.length_cons, List.length_nil]; omega]
  generalize hs : pre ++ (loc' ++ [w1]) ++ 64 :: w2 :: dom' = s
  have hs' : s = (pre ++ loc') ++ w1 :: 64 :: w2 :: dom' := by
    rw [← hs]; simp only [List.append_assoc, List.cons_append, List.nil_append]
  have hl1 : (pre ++ loc' ++ [w1]).length = (pre ++ loc').length + 1 := by
    simp only [List.length_append, List.length_cons, List.length_nil]
  have hl2 : (pre ++ loc' ++ [w1, 64]).length = (pre ++ loc').length + 1 + 1 := by
    simp only [List.length_append, List.length_cons, List.length_nil]
  have h1 : s[(pre ++ loc').length]? = some w1 := List.getElem?_of_append hs' rfl
  have hat : s[(pre ++ loc').length + 1]? = some 64 :=
    List.getElem?_of_append (a := pre ++ loc' ++ [w1]) (c := w2 :: dom') (by rw [hs']; simp) hl1.symm
  have h2 : s[(pre ++ loc').length + 1 + 1]? = some w2 :=
    List.getElem?_of_append (a := pre ++ loc' ++ [w1, 64]) (c := dom') (by rw [hs']; simp) hl2.symm
  have hcand : candidate s ((pre ++ loc').length + 1) = true := by
    unfold candidate
    rw [Nat.add_sub_cancel, h1, h2]
    simp [hw1', hw2']
  have htake : s.take ((pre ++ loc').length + 1) = pre ++ (loc' ++ [w1]) :=
    List.take_of_append hs.symm (by rw [← hl1, List.append_assoc])
  have hle : (pre ++ loc').length + 1 ≤ s.length := by
    rw [hs']
    simp only [List.length_append, List.length_cons]
    omega
  have hdrop : s.drop ((pre ++ loc').length + 1 + 1) = w2 :: dom' :=
    List.drop_of_append (a := pre ++ loc' ++ [w1, 64]) (by rw [hs']; simp) hl2.symm
  rcases C14_every_at_examined s _ hat hcand with h | ⟨lim, hlim, h | h⟩
  · exact h
  · rw [findStart_eq s _ lim pre _ htake hle hloc hpre hlim] at h
    cases h
  · exact absurd h (hend s _ hdrop)

/-- **C14 (completeness for dotted domains, partial).** An address `loc@lbl.d‹run›` — local part of
address characters ending in a word character, not directly preceded by an address character or '/';
first domain label of address characters starting with a word character; a dot; a word character;
address characters up to the first other byte — whose domain is not purely numeric (digits and dots only) has its
'@' inside a redacted span, wherever it sits and whatever surrounds it. -/
theorem C14_complete_dotted_partial (pre loc lbl run post : Bytes) (d w1 w2 : Nat)
    (hloc : ∀ c ∈ loc, isAddr c = true) (hw1 : loc.getLast? = some w1) (hw1' : isWord w1 = true)
    (hpre : ∀ c, pre.getLast? = some c → isAddr c = false ∧ c ≠ 47)
    (hl : ∀ c ∈ lbl, (isAddr c && c != 46) = true) (hw2 : lbl.head? = some w2) (hw2' : isWord w2 = true)
    (hd : isWord d = true) (hr : ∀ c ∈ run, isAddr c = true)
    (hp : ∀ c, post.head? = some c → isAddr c = false)
    (hn : numLike (lbl ++ 46 :: d :: run) = false) :
    ∃ p ∈ spans (pre ++ loc ++ 64 :: (lbl ++ 46 :: d :: (run ++ post))),
      p.1 ≤ pre.length + loc.length ∧ pre.length + loc.length < p.2 := by
  refine complete_of_findEnd pre loc _ w1 w2 hloc hw1 hw1' hpre ?_ hw2' fun s a hs => ?_
  · cases lbl with
    | nil => cases hw2
    | cons x r => exact hw2
  · rw [findEnd_dotted s a lbl run post d hs hl hd hr hp hn]; exact Option.some_ne_none _

theorem findEnd_cut (s : Bytes) (a : Nat) (lbl : Bytes) (dot : Bool) (hs : s.drop (a + 1) = lbl ++ if dot then [46] else [])
    (hl : ∀ c ∈ lbl, (isAddr c && c != 46) = true) (hn : numLike lbl = false) : findEnd s a = some s.length := by
  unfold findEnd
  simp only [hs]
  have h1 : (lbl ++ if dot then [46] else []).takeWhile (fun c => isAddr c && c != 46) = lbl :=
    List.takeWhile_append_stop _ hl (by cases dot <;> simp)
  rw [h1, List.drop_left' rfl]
  cases dot <;> simp [hn]

/-- **C14 (completeness, a domain truncated by the end of the text).** An address whose domain runs to the end of the
field — `loc@label` with no dot yet, or `loc@label.` cut right after the first dot — has its '@' inside a redacted span,
unless the part of the domain that is there is number-like. -/
theorem C14_complete_truncated (pre loc lbl : Bytes) (w1 w2 : Nat) (dot : Bool)
    (hloc : ∀ c ∈ loc, isAddr c = true) (hw1 : loc.getLast? = some w1) (hw1' : isWord w1 = true)
    (hpre : ∀ c, pre.getLast? = some c → isAddr c = false ∧ c ≠ 47)
    (hl : ∀ c ∈ lbl, (isAddr c && c != 46) = true) (hw2 : lbl.head? = some w2) (hw2' : isWord w2 = true)
    (hn : numLike lbl = false) :
    ∃ p ∈ spans (pre ++ loc ++ 64 :: (lbl ++ if dot then [46] else [])),
      p.1 ≤ pre.length + loc.length ∧ pre.length + loc.length < p.2 := by
  refine complete_of_findEnd pre loc _ w1 w2 hloc hw1 hw1' hpre ?_ hw2' fun s a hs => ?_
  · cases lbl with
    | nil => cases hw2
    | cons x r => exact hw2
  · rw [findEnd_cut s a lbl dot hs hl hn]; exact Option.some_ne_none _

/-! ### "domain not purely numeric": the test before the repair of F-22 -/

/-- the letter of the property: digits and dots only -/
def purelyNumeric (d : Bytes) : Bool := !d.isEmpty && d.all (fun c => isDigit c || c = 46)

theorem C14_numeric_test_is_the_letter (d : Bytes) : numLike d = purelyNumeric d := rfl

/-- before the repair a digit-edged domain that is not purely numeric counted as numeric (its address stayed in the text) and a
purely numeric domain of one digit, or one ending in a dot, did not (it was redacted); both are as the property says now -/
theorem legacy_F22 :
    numLikeLegacy (b!"1and1.de1") = true ∧ numLike (b!"1and1.de1") = false ∧ redact (b!"bob@1and1.de1") = b!"REDACTED" ∧
    numLikeLegacy (b!"5") = false ∧ numLike (b!"5") = true ∧ redact (b!"x@5") = b!"x@5" ∧
    numLikeLegacy (b!"1.2.") = false ∧ redact (b!"x@1.2.") = b!"x@1.2." := by decide

/-! ### fact obligations (Tie B) -/

theorem C14_fact_trailing_dot_checked : Facts.redact_trailing_dot_checks_number = some true := rfl
theorem C14_fact_word_chars : Facts.redact_word_ranges = ["A-Z", "a-z", "0-9"] := rfl
theorem C14_fact_addr_extra : Facts.redact_addr_extra = [".", "-", "_"] := rfl

/-! ### non-vacuity -/

example : spans (b!"mail x.y@ex-1.org, bye") = [(5, 17)] := by decide
example : spans (b!"to bob@examp") = [(3, 12)] := by decide
example : spans (b!"to bob@example.") = [(3, 15)] := by decide
example : spans (b!"reply_to: foo-1@domain.fi,foo-2@domain.fi,Hello") = [(10, 25), (26, 41)] := by decide
example : redact (b!"[foo-1@domain.fifoo-2@domain.fi]") = b!"[REDACTEDREDACTED]" := by decide

/-- the pre-repair code (no numeric test before a trailing dot) redacted `Trx@123456.`; the repaired model does not -/
example : redact (b!"Trx@123456.") = b!"Trx@123456." := by decide

end C14
