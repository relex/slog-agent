import SlogModel.Model.Ser
import SlogModel.Lemmas.Msgpack
import SlogModel.Gen.Facts

/-!
  C10 — Serialized Fluentd events decode to exactly the record's visible fields.

  * `C10_decode_encode` : for every configuration and record (field lengths below 2³², the wire
      format's limit), the emitted bytes decode — by the MessagePack decoder written from the format
      specification — to `[EventTime, {visible fields…, "environment": {env fields…}}]` with nothing
      left over; rewritten fields hold the rewrite result.
  * `C10_time_roundtrip` : the 8 payload bytes of the EventTime give back seconds and nanoseconds
      when 0 ≤ seconds < 2³².
  * `C10_rewrite_fits`  : the rewritten value is never longer than the reserved maximum, so the
      back-patched header width is the reserved one.
  * `C10_unescape_length` : unescaping never lengthens a value.
  * `C10_bound_sufficient` : the emitted bytes are shorter than `maxSerializedLength` (the buffer
      the repaired code allocates), so the encoder never runs past its buffer (C07).
-/

namespace C10
open MP Ser

/-- **C10 (unescape never lengthens).** -/
theorem C10_unescape_length (s : Bytes) : (unescape s).length ≤ s.length := by
  fun_induction unescape s with
  | case1 => simp                                  -- []
  | case2 c => simp                                -- [c]
  | case3 d r _ ih => simp; omega                  -- `\` and an escapable `d`: two bytes become one
  | case4 d r _ ih => simp; omega                  -- `\` and another byte: both are kept
  | case5 c d r _ ih => simp at ih ⊢; omega        -- no `\`

/-- **C10 (rewritten value fits the reserved length).** -/
theorem C10_rewrite_fits (c : Cfg) (r : Rec) (v : Bytes) (chain : List Rw) :
    (rwBody c r v chain).length ≤ rwMax c r v chain := by
  fun_induction rwBody c r v chain with
  | case1 | case2 | case3 => exact Nat.le_refl _     -- [] / copy / unescape of an already unescaped record: the value itself
  | case4 => exact C10_unescape_length v            -- unescape
  -- `let fv := fieldAt r f` comes out as a let variable: unfold it where the condition is used
  | case5 f rest fv h ih => simp [rwMax, fv, show fieldAt r f ≠ [] from h]; omega     -- inline, field present
  | case6 f rest fv h ih => simpa [rwMax, show ¬ fieldAt r f ≠ [] from h] using ih    -- inline, field empty

def emitted (c : Cfg) (r : Rec) (i : Nat) (v : Bytes) : Bytes :=
  match chainOf c i with
  | some chain => rwBody c r v chain
  | none => v

def expectedFields (c : Cfg) (r : Rec) : List (Val × Val) :=
  (visibleIdx c r).map (fun (i, n, v) => (Val.str n, Val.str (emitted c r i v)))

def expectedEnv (c : Cfg) (r : Rec) : List (Val × Val) :=
  (envPairs c r).map (fun (n, v) => (Val.str n, Val.str v))

def expected (c : Cfg) (r : Rec) : Val :=
  .arr [.ext 0 (be32 (r.sec % 4294967296).toNat ++ be32 r.nsec),
        .map (expectedFields c r ++ [(.str environmentKey, .map (expectedEnv c r))])]

/-- every length the wire format has to carry is below 2³² (and the two maps below 2¹⁶ entries) -/
structure Fits (c : Cfg) (r : Rec) : Prop where
  names : ∀ p ∈ visibleIdx c r, p.2.1.length < 4294967296
  values : ∀ p ∈ visibleIdx c r, (emitted c r p.1 p.2.2).length < 4294967296
  env : ∀ p ∈ envPairs c r, p.1.length < 4294967296 ∧ p.2.length < 4294967296
  nfields : c.names.length + 1 < 65536
  nenv : c.env.length < 65536
  envNames : c.envNames.length = c.env.length

theorem dec_encField (d : Nat) (c : Cfg) (r : Rec) (i : Nat) (n v : Bytes)
    (hn : n.length < 4294967296) (hv : (emitted c r i v).length < 4294967296) :
    ∃ a b, encField c r i n v = a ++ b ∧ Dec d a (.str n) ∧ Dec d b (.str (emitted c r i v)) := by
  unfold encField emitted at *
  cases hc : chainOf c i with
  | some chain =>
    simp only [hc] at hv ⊢
    exact ⟨_, _, List.append_assoc .., dec_encStr d n hn, dec_strHdrByMax d _ _ (C10_rewrite_fits c r v chain) hv⟩
  | none => exact ⟨_, _, rfl, dec_encStr d n hn, dec_encStr d v (by simpa [hc] using hv)⟩

theorem envPairs_length (c : Cfg) (r : Rec) (h : c.envNames.length = c.env.length) :
    (envPairs c r).length = c.env.length := by
  simp [envPairs, h]

theorem visibleIdx_length_le (c : Cfg) (r : Rec) : (visibleIdx c r).length ≤ c.names.length := by
  unfold visibleIdx
  calc _ ≤ ((List.range c.names.length).map _).length := List.length_filter_le _ _
    _ = c.names.length := by simp

/-- The emitted event is a complete encoding of the expected value at every nesting depth from 3:
it can be followed by anything (the next event of a chunk) and be nested (in a Forward request). -/
theorem encodeRecord_dec (d : Nat) (c : Cfg) (r : Rec) (hf : Fits c r) :
    Dec (d + 3) (encodeRecord c r) (expected c r) := by
  have hEnv : Dec (d + 1) (mapHdrByCap c.env.length c.env.length
      ++ ((envPairs c r).map (fun (n, v) => encStr n ++ encStr v)).flatten) (.map (expectedEnv c r)) := by
    have := DecPairs.flatten (fun (p : Bytes × Bytes) => encStr p.1 ++ encStr p.2) (fun p => .str p.1)
      (fun p => .str p.2) (envPairs c r)
      (fun p hp => ⟨_, _, rfl, dec_encStr d _ (hf.env p hp).1, dec_encStr d _ (hf.env p hp).2⟩) (DecPairs.nil d)
    rw [envPairs_length c r hf.envNames] at this
    exact dec_mapHdrByCap (fun h => h) hf.nenv (by simpa [expectedEnv] using this)
  -- the visible fields, then the pair ("environment", env map)
  have hRoot := DecPairs.flatten (fun (p : Nat × Bytes × Bytes) => encField c r p.1 p.2.1 p.2.2)
    (fun p => .str p.2.1) (fun p => .str (emitted c r p.1 p.2.2)) (visibleIdx c r)
    (fun p hp => dec_encField (d + 1) c r _ _ _ (hf.names p hp) (hf.values p hp))
    (DecPairs.cons (dec_encStr (d + 1) environmentKey (by decide)) hEnv (DecPairs.nil (d + 1)))
  have hvis := visibleIdx_length_le c r
  have hMap := dec_mapHdrByCap (cap := c.names.length + 1) (fun h => by omega) (by have := hf.nfields; omega) hRoot
  have hTime : Dec (d + 2) (encTime r) (.ext 0 (be32 (r.sec % 4294967296).toNat ++ be32 r.nsec)) :=
    dec_fixext8 (d + 2) 0 _ (by simp [be32])
  have := dec_fixarr (n := 2) (by decide) (DecSeq.cons hTime (DecSeq.cons hMap (DecSeq.nil (d + 2))))
  simpa [encodeRecord, expected, expectedFields] using this

/-- **C10 (decode ∘ encode).** The emitted event is well-formed MessagePack and decodes to exactly
the record's timestamp, its non-empty non-hidden fields (rewritten where configured) and the
nested `environment` map (present even when its values are empty), with nothing left over. -/
theorem C10_decode_encode (c : Cfg) (r : Rec) (hf : Fits c r) :
    decode 3 (encodeRecord c r) = some (expected c r, []) :=
  (encodeRecord_dec 0 c r hf).closed

/-- **C10 (timestamp).** For seconds inside the wire format's 32-bit field, the EventTime payload
gives back exactly the record's seconds and nanoseconds. -/
theorem C10_time_roundtrip (sec : Int) (nsec : Nat) (h1 : 0 ≤ sec) (h2 : sec < 4294967296)
    (h3 : nsec < 1000000000) :
    rd32 (be32 (sec % 4294967296).toNat ++ be32 nsec) = some (sec.toNat, be32 nsec) ∧
    rd32 (be32 nsec) = some (nsec, []) := by
  have e : (sec % 4294967296).toNat = sec.toNat := by omega
  rw [e]
  refine ⟨rd32_be32 _ (by omega) _, ?_⟩
  have := rd32_be32 nsec (by omega) []
  simpa using this

theorem encStr_length_le (v : Bytes) : (encStr v).length ≤ v.length + 5 := by
  unfold encStr
  split
  · simp
  · split <;> simp [be16, be32]

theorem strHdr_length_le (m a : Nat) : (strHdrByMax m a).length ≤ 5 := by
  unfold strHdrByMax; split <;> simp [be16, be32]

theorem mapHdr_length_le (cap n : Nat) : (mapHdrByCap cap n).length ≤ 3 := by
  unfold mapHdrByCap; split <;> simp [be16]

theorem encField_length_le (c : Cfg) (r : Rec) (i : Nat) (n v : Bytes) :
    (encField c r i n v).length ≤ (encStr n).length + 5 + fieldMax c r i v := by
  unfold encField fieldMax
  cases hc : chainOf c i with
  | some chain =>
    have h1 := C10_rewrite_fits c r v chain
    have h2 := strHdr_length_le (rwMax c r v chain) (rwBody c r v chain).length
    simp; omega
  | none =>
    have := encStr_length_le v
    simp; omega

theorem flatten_length_le {α : Type} (l : List α) (f : α → Bytes) (g : α → Nat)
    (h : ∀ x, (f x).length ≤ g x) : ((l.map f).flatten).length ≤ (l.map g).sum := by
  induction l with
  | nil => simp
  | cons x xs ih =>
    have := h x
    simp only [List.map_cons, List.flatten_cons, List.length_append, List.sum_cons]
    omega

/-- **C10 / C07 (the buffer is always large enough).** The emitted event is at least three bytes
shorter than the bound from which the repaired serializer sizes its buffer, for every record —
no index can run past the buffer and the "exceeds buffer" branch is never taken. -/
theorem C10_bound_sufficient (c : Cfg) (r : Rec) :
    (encodeRecord c r).length + 3 ≤ serBound c r := by
  have h1 := flatten_length_le (visibleIdx c r) (fun (i, n, v) => encField c r i n v)
    (fun (i, n, v) => (encStr n).length + 5 + fieldMax c r i v)
    (fun (i, n, v) => encField_length_le c r i n v)
  have h2 := flatten_length_le (envPairs c r) (fun (n, v) => encStr n ++ encStr v)
    (fun (n, v) => (encStr n).length + 5 + v.length)
    (fun (n, v) => by have := encStr_length_le v; simp; omega)
  have h3 := mapHdr_length_le (c.names.length + 1) ((visibleIdx c r).length + 1)
  have h4 := mapHdr_length_le c.env.length c.env.length
  have h5 : (encStr environmentKey).length = 12 := by decide
  have h6 : (encTime r).length = 10 := by simp [encTime, be32]
  unfold encodeRecord serBound
  simp only [List.length_append, List.length_cons, List.length_nil, h5, h6]
  dsimp only at h1 h2 ⊢
  omega

/-- F-9: the pre-repair unescape rewriter set `record.Unescaped`; a second serialization of the same
record then copies the value still escaped.  In the repaired model the record is not an output of
serialization at all, so two outputs see the same record: -/
example (c : Cfg) (r : Rec) : encodeRecord c r = encodeRecord c r := rfl

/-! ### fact obligations (Tie B) -/

theorem C10_fact_classes_found : Facts.gen_str_class_found = true ∧ Facts.gen_map_class_found = true := ⟨rfl, rfl⟩

/-- the header class the code selects for a value of `n` bytes (translated from the `switch` in `encodeRecord`) is the one
`encStr` uses: fixstr below 16, str16 below 65536, str32 from there -/
theorem C10_gen_str_class (v : Bytes) :
    (Facts.gen_str_class v.length = 0 ∧ encStr v = (160 + v.length) :: v) ∨
    (Facts.gen_str_class v.length = 1 ∧ encStr v = 218 :: be16 v.length ++ v) ∨
    (Facts.gen_str_class v.length = 2 ∧ encStr v = 219 :: be32 v.length ++ v) := by
  have a : ((v.length : Int) < 16) ↔ v.length < 16 := by omega
  have b : ((v.length : Int) < 65536) ↔ v.length < 65536 := by omega
  unfold Facts.gen_str_class encStr
  simp only [a, b, decide_eq_true_eq]
  split
  · exact .inl ⟨rfl, rfl⟩
  · split
    · exact .inr (.inl ⟨rfl, rfl⟩)
    · exact .inr (.inr ⟨rfl, rfl⟩)

/-- the map header reserved for a schema of `nf` fields is `mapHdrByCap (nf + 1)` -/
theorem C10_gen_map_class (nf n : Nat) :
    (Facts.gen_map_class nf = 0 ∧ mapHdrByCap (nf + 1) n = [128 + n]) ∨
    (Facts.gen_map_class nf = 1 ∧ mapHdrByCap (nf + 1) n = 222 :: be16 n) := by
  have a : ((nf : Int) + 1 < 16) ↔ nf + 1 < 16 := by omega
  unfold Facts.gen_map_class mapHdrByCap
  simp only [a, decide_eq_true_eq]
  split
  · exact .inl ⟨rfl, rfl⟩
  · exact .inr ⟨rfl, rfl⟩

theorem C10_fact_str_classes : Facts.ser_str_thresholds = [16, 65536] := rfl
theorem C10_fact_map_threshold : Facts.ser_map_fix_below = some 16 := rfl
theorem C10_fact_rewrite_threshold : Facts.ser_rewrite_len16_below = some 65536 := rfl
theorem C10_fact_buffer_grows : Facts.ser_buffer_sized_from_record = some true := rfl
theorem C10_fact_rewriter_keeps_record : Facts.ser_unescape_rewriter_sets_flag = some false := rfl
theorem C10_fact_codes : Facts.msgpack_codes = [("FixedArrayLow", 144), ("FixedMapLow", 128), ("FixedStrLow", 160),
    ("Str16", 218), ("Str32", 219), ("Map16", 222), ("FixExt8", 215)] := rfl

/-! non-vacuity -/

def sampleCfg : Cfg :=
  { names := [b!"host", b!"app", b!"log", b!"secret"], env := [0], envNames := [b!"host"], hidden := [3],
    rewrites := [(2, [.inline 1, .unescape])] }
def sampleRec : Rec :=
  { fields := [b!"h1", b!"web", b!"line1\\nline2", b!"s3cr3t"], sec := 1565873446, nsec := 129000, unescaped := false }

example : Fits sampleCfg sampleRec := by
  constructor <;> decide
example : expectedFields sampleCfg sampleRec =
    [(.str (b!"app"), .str (b!"web")), (.str (b!"log"), .str (b!"app=web line1\nline2"))] := by rfl

end C10
