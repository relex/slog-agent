import SlogModel.Model.Cfg
import SlogModel.Model.CfgSer
import SlogModel.Model.CfgFile
import SlogModel.Lemmas.XformTotal
import SlogModel.Lemmas.Assoc
import SlogModel.Gen.Facts

/-!
  C16 — Accepted configurations always instantiate; rejected ones fail cleanly.

  * `C16_verify_sound` : if verification accepts a (nested) list of transform configurations, then
      construction succeeds — none of the `Must…` / `panic` sites of the constructors can fire —
      and the constructed program processes every record without panicking.
  * `C16_extractor_wf` : every extractor the constructor returns satisfies what the run-time code
      relies on (a bare `*` has its far boundary, a character class has a 256-entry table).
  * `C16_serializer_verify_sound`, `C16_file_head_verify_sound`, `C16_input_verify_sound` : the same for the output
      section, the head of the file and a syslog input.
  * `C16_fact_must_sites` : the inventory of `Must…` / `panic` sites in constructors, regenerated
      from the source, equals the reviewed list (each entry is covered by a verification check).
  The YAML decoding / section-presence glue is decided by the correspondence run (generated and
  mutated configuration files through the real loader, under `recover` and in a sub-process).
-/

namespace C16
open Cfg Xform XT

def loc (sch : Schema) (name : Bytes) : Nat := (locate sch name).getD 0

theorem locate_loc {sch : Schema} {name : Bytes} (h : (locate sch name).isSome = true) :
    locate sch name = some (loc sch name) := by
  obtain ⟨i, hi⟩ := Option.isSome_iff_exists.mp h
  rw [loc, hi]; rfl

theorem mustLocate_eq {sch : Schema} {name : Bytes} (h : (locate sch name).isSome = true) :
    mustLocate sch name = .ok (loc sch name) := by
  rw [mustLocate, locate_loc h]

theorem locate_lt (sch : Schema) (name : Bytes) (i : Nat) (h : locate sch name = some i) : i < sch.names.length :=
  (List.idxOf?_eq_some_iff.mp h).1

theorem loc_lt {sch : Schema} {name : Bytes} (h : (locate sch name).isSome = true) :
    loc sch name < sch.names.length :=
  locate_lt sch name _ (locate_loc h)

theorem mustLocate_key {sch : Schema} {k : Bytes} (h : keyVerify sch k = true) : mustLocate sch k = .ok (loc sch k) :=
  mustLocate_eq ((Bool.and_eq_true _ _).mp h).2

theorem partsConstruct_ok {sch : Schema} : ∀ {ps : List TPart}, ps.all (partVerify sch) = true →
    ∃ qs, partsConstruct sch ps = .ok qs ∧ ∀ q ∈ qs, partOK sch.names.length q
  | [], _ => ⟨[], rfl, nofun⟩
  | p :: r, h => by
    simp only [List.all_cons, Bool.and_eq_true] at h
    obtain ⟨hp, hr⟩ := h
    obtain ⟨qs, hqs, hq⟩ := partsConstruct_ok hr
    rw [partsConstruct, hqs]
    cases p with
    | lit s => exact ⟨_, rfl, List.forall_mem_cons.mpr ⟨trivial, hq⟩⟩
    | var n => rw [partConstruct, mustLocate_eq hp]; exact ⟨_, rfl, List.forall_mem_cons.mpr ⟨loc_lt hp, hq⟩⟩
    | slice n a b => rw [partConstruct, mustLocate_eq hp]; exact ⟨_, rfl, List.forall_mem_cons.mpr ⟨loc_lt hp, hq⟩⟩

theorem tmplConstruct_ok {sch : Schema} : ∀ {t : Tmpl}, tmplVerify sch t = true →
    ∃ qs, tmplConstruct sch t = .ok qs ∧ ∀ q ∈ qs, partOK sch.names.length q
  | none, h => nomatch h
  | some _, h => partsConstruct_ok h

theorem pairsConstruct_ok {sch : Schema} : ∀ {pairs : List (Bytes × Tmpl)},
    pairs.all (fun (d, t) => (locate sch d).isSome && tmplVerify sch t) = true →
    ∃ ps, pairsConstruct sch pairs = .ok ps ∧ ∀ p ∈ ps, ∀ part ∈ p.2, partOK sch.names.length part
  | [], _ => ⟨[], rfl, nofun⟩
  | (d, t) :: r, h => by
    simp only [List.all_cons, Bool.and_eq_true, and_assoc] at h
    obtain ⟨hd, ht, hr⟩ := h
    obtain ⟨qs, hq, hw⟩ := tmplConstruct_ok ht
    obtain ⟨rs, hrs, hwr⟩ := pairsConstruct_ok hr
    have hc : pairsConstruct sch ((d, t) :: r) = .ok ((loc sch d, qs) :: rs) := by
      rw [pairsConstruct, mustLocate_eq hd, hq, hrs]
      rfl
    exact ⟨_, hc, List.forall_mem_cons.mpr ⟨hw, hwr⟩⟩

theorem keysConstruct_eq {sch : Schema} : ∀ {keys : List Bytes}, keys.all (fun k => (locate sch k).isSome) = true →
    keysConstruct sch keys = .ok (keys.map (loc sch))
  | [], _ => rfl
  | k :: r, h => by
    simp only [List.all_cons, Bool.and_eq_true] at h
    rw [keysConstruct, mustLocate_eq h.1, keysConstruct_eq h.2]; rfl

theorem matchConstruct_eq {sch : Schema} : ∀ {m : MatchCfg}, matchVerify sch m = true →
    matchConstruct sch m = .ok (m.map fun (k, vm) => (loc sch k, vm))
  | [], _ => rfl
  | (k, vm) :: r, h => by
    simp only [matchVerify, List.all_cons, Bool.and_eq_true] at h
    rw [matchConstruct, mustLocate_eq h.1, matchConstruct_eq (by simpa [matchVerify] using h.2)]; rfl

theorem setRange_length (t : List Bool) (lo hi : Nat) (v : Bool) : (setRange t lo hi v).length = t.length := by
  simp [setRange]

theorem fillLoop_length {expr : Bytes} {listed : Bool} {fuel i : Nat} {rs : Bool} {t out : List Bool}
    (h : fillLoop expr listed fuel i rs t = some out) : out.length = t.length := by
  -- every branch returns `t` or recurses on `t.set …` / `setRange t …`, both of `t`'s length
  fun_induction fillLoop expr listed fuel i rs t <;> simp_all [setRange_length]

theorem classTable_length {b : Bytes} {t : List Bool} (h : classTable b = some t) : t.length = 256 := by
  revert h
  fun_cases classTable b <;> intro h
  · cases h
  all_goals exact (fillLoop_length h).trans List.length_replicate

/-- **C16 (constructed extractors are well formed).** -/
theorem C16_extractor_wf (fromEnd : Bool) (pattern : Bytes) (maxRange : Nat) (e : Extractor)
    (h : newExtractor fromEnd pattern maxRange = some e) : e.WF ∧ e.fromEnd = fromEnd := by
  -- of the branches of `newExtractor` the two that accept are left
  revert h
  fun_cases newExtractor fromEnd pattern maxRange <;> intro h <;> cases h
  · -- a bare `*`: accepted only with the boundary on its far side
    exact ⟨⟨fun _ => by cases fromEnd <;> simp_all, fun t ht => nomatch ht⟩, rfl⟩
  · -- a character class: the table comes from `classTable`
    exact ⟨⟨(fun hv => nomatch hv), fun t' ht' => by cases ht'; exact classTable_length ‹_›⟩, rfl⟩

def Built (sch : Schema) (x : GoM (Step × Nat)) : Prop :=
  ∃ s nx, x = .ok (s, nx) ∧ stepWF sch.names.length s
def BuiltSteps (sch : Schema) (x : GoM (List Step × Nat)) : Prop :=
  ∃ s nx, x = .ok (s, nx) ∧ stepsWF sch.names.length s
def BuiltCases (sch : Schema) (x : GoM (List (Xform.Match × List Step) × Nat)) : Prop :=
  ∃ s nx, x = .ok (s, nx) ∧ casesWF sch.names.length s

theorem Built.ok {sch : Schema} {s : Step} {nx : Nat} (hw : stepWF sch.names.length s) : Built sch (.ok (s, nx)) :=
  ⟨s, nx, rfl, hw⟩

theorem Built.bind_eq {sch : Schema} {α : Type} {m : GoM α} {a : α} {f : α → GoM (Step × Nat)} (h : m = .ok a)
    (hf : Built sch (f a)) : Built sch (m >>= f) := by
  rw [h]
  exact hf

mutual
theorem constructStep_ok (sch : Schema) (next : Nat) : (c : TC) → verifyStep sch c = true →
    Built sch (constructStep sch next c) := fun c h => by
  cases c <;> simp only [verifyStep, Bool.and_eq_true, and_assoc] at h
  case addFields pairs =>
    obtain ⟨ps, hp, hw⟩ := pairsConstruct_ok h.2
    exact .bind_eq hp (.ok hw)
  case iff m thn =>
    obtain ⟨-, hm, -, hthn⟩ := h
    obtain ⟨t, nx, ht, hw⟩ := constructSteps_ok sch next thn hthn
    exact .bind_eq (matchConstruct_eq hm) (.bind_eq ht (.ok hw))
  case switch cases =>
    obtain ⟨t, nx, ht, hw⟩ := constructCases_ok sch next cases h.2
    exact .bind_eq ht (.ok hw)
  case block steps =>
    obtain ⟨t, nx, ht, hw⟩ := constructSteps_ok sch next steps h.2
    exact .bind_eq ht (.ok hw)
  case extract fromEnd key pattern maxLen dest =>
    -- key, pattern, maxLen, extractor built, destination
    obtain ⟨hk, -, -, hx, hd⟩ := h
    obtain ⟨e, he⟩ := Option.isSome_iff_exists.mp hx
    rw [constructStep]
    simp only [he]
    exact .bind_eq (mustLocate_key hk) (.bind_eq (mustLocate_key hd) (.ok (C16_extractor_wf _ _ _ _ he).1))
  case delFields keys => exact .bind_eq (keysConstruct_eq h.2) (.ok trivial)
  case drop m rate label =>
    obtain ⟨-, hm, -⟩ := h
    exact .bind_eq (matchConstruct_eq hm) (.ok trivial)
  case unescape key => exact .bind_eq (mustLocate_key h) (.ok trivial)
  -- the other constructors with one key: its `MustCreateFieldLocator` is covered by the first clause
  case mapValue | truncate | redactEmail | parseTime => exact .bind_eq (mustLocate_key h.1) (.ok trivial)
  case regex key patternOK captures =>
    obtain ⟨hk, rfl, hc⟩ := h
    exact .bind_eq (keysConstruct_eq hc) (.bind_eq (mustLocate_key hk) (.ok trivial))

theorem constructSteps_ok (sch : Schema) (next : Nat) : (l : List TC) → verifySteps sch l = true →
    BuiltSteps sch (constructSteps sch next l)
  | [], _ => ⟨[], next, rfl, trivial⟩
  | c :: r, h => by
    simp only [verifySteps, Bool.and_eq_true] at h
    obtain ⟨hc, hr⟩ := h
    obtain ⟨s, n1, hs, hw⟩ := constructStep_ok sch next c hc
    obtain ⟨r', n2, hr, hwr⟩ := constructSteps_ok sch n1 r hr
    exact ⟨s :: r', n2, by rw [constructSteps, hs]; simp only [GoM.ok_bind, hr]; rfl, ⟨hw, hwr⟩⟩

theorem constructCases_ok (sch : Schema) (next : Nat) : (l : List (MatchCfg × List TC)) →
    verifyCases sch l = true → BuiltCases sch (constructCases sch next l)
  | [], _ => ⟨[], next, rfl, trivial⟩
  | (m, thn) :: r, h => by
    simp only [verifyCases, Bool.and_eq_true, and_assoc] at h
    obtain ⟨-, hm, -, hthn, hr⟩ := h
    obtain ⟨t, n1, ht, hw⟩ := constructSteps_ok sch next thn hthn
    obtain ⟨r', n2, hr, hwr⟩ := constructCases_ok sch n1 r hr
    exact ⟨(_, t) :: r', n2,
      by rw [constructCases, matchConstruct_eq hm]; simp only [GoM.ok_bind, ht, hr]; rfl, ⟨hw, hwr⟩⟩
end

/-- **C16 (verification is sound).** Every list of transform configurations that verification
accepts can be constructed — no `Must…` / `panic` site of any constructor fires, at any nesting
depth — and the constructed program processes every record of the schema's width without
panicking. -/
theorem C16_verify_sound (sch : Schema) (cfg : List TC) (h : verifySteps sch cfg = true) :
    ∃ prog nx, constructSteps sch 0 cfg = .ok (prog, nx) ∧
      ∀ (st : XState) (r : Rec), r.fields.length = sch.names.length →
        ∃ res r' st', runSteps st r prog = .ok (res, r', st') := by
  obtain ⟨prog, nx, h1, h2⟩ := constructSteps_ok sch 0 cfg h
  refine ⟨prog, nx, h1, ?_⟩
  intro st r hl
  obtain ⟨res, r', st', h3, _⟩ := runSteps_total sch.names.length st r hl prog h2
  exact ⟨res, r', st', h3⟩

/-! ### fact obligations (Tie B) -/

/-- the reviewed inventory of `Must…` / `panic` / `Fatal` sites in constructors; each is annotated with
the verification check that excludes it.  A new site changes the regenerated list and breaks this. -/
def reviewedMustSites : List String := [
    "base/bmatch/logmatcherconfig.go:NewMatcher:schema.MustCreateFieldLocator(key)",   -- LogMatcherConfig.VerifyConfig checks every key (Cfg.matchVerify)
    "input/sysloginput/sysloginput.go:NewInput:parentLogger.Panic(\"failed to create parser: \")",   -- syslog Config.VerifyConfig builds a dummy parser with the same arguments
    "input/sysloginput/sysloginput.go:NewParser:syslogparser.MustNewParser(slogger)",   -- same
    "input/syslogparser/syslogparser.go:MustNewParser:parentLogger.Panic(\"failed to create SyslogParser: \")",   -- same
    "orchestrate/obykeyset/orchestrator.go:NewOrchestrator:ologger.Panicf(\"keyFields: %s\")",   -- obykeyset Config.VerifyConfig: CreateFieldLocators(cfg.Keys)
    "orchestrate/obykeyset/orchestrator.go:NewOrchestrator:ologger.Panicf(\"tagTemplate: %s\")",   -- obykeyset Config.VerifyConfig: NewTagBuilder
    "output/datadog/clientworker.go:NewClientWorker:parentLogger.Panic(err)",   -- datadog Config.VerifyConfig: http.NewRequest on the address (repaired F-10h)
    "output/fluentdforward/config.go:NewChunkMaker:parentLogger.Fatalf(\"unsupported message mode: %s\")",   -- fluentdforward VerifyConfig: messageMode is one of the three
    "output/fluentdforward/config.go:NewSerializer:MustNewEventSerializer(parentLogger)",   -- fluentdforward VerifyConfig: environmentFields in schema (repaired F-10d), rewriters verified
    "output/fluentdforward/eventserializer.go:MustNewEventSerializer:logger.Panic(\"failed to create FluentdForwardEventSer)",   -- same
    "rewrite/rcopy/rcopy.go:NewRewriter:logger.Panic(\"'copy' must be the last rewriter\")",   -- VerifyConfig(hasNext)
    "rewrite/rinline/rinline.go:NewRewriter:logger.Panic(\"'inline' cannot be the last rewriter\")",   -- VerifyConfig(hasNext)
    "rewrite/rinline/rinline.go:NewRewriter:schema.MustCreateFieldLocator(c.Field)",   -- VerifyConfig .field
    "rewrite/runescape/runescape.go:NewRewriter:logger.Panic(\"'unescape' must be the last rewriter\")",   -- VerifyConfig(hasNext)
    "run/loader.go:NewLoaderFromConfigFile:schema.MustCreateFieldLocators(config.MetricKeys)",   -- checkMetricKeys
    "run/loader.go:StartOrchestrator:loader.logger.Panic(\"StartOrchestrator can only be invoked o)",   -- API misuse guard, not configuration dependent
    "transform/taddfields/taddfields.go:NewTransform:panic(err)",   -- VerifyConfig compiles every template (Cfg.tmplVerify)
    "transform/taddfields/taddfields.go:NewTransform:schema.MustCreateFieldLocator(dstKey)",   -- VerifyConfig checks every destination
    "transform/tdelfields/tdelfields.go:NewTransform:schema.MustCreateFieldLocator(key)",   -- VerifyConfig checks every key
    "transform/textract/textract.go:NewTransform:regexp.MustCompile(c.Pattern)",   -- VerifyConfig compiles the pattern
    "transform/textract/textract.go:NewTransform:schema.MustCreateFieldLocator(c.Key)",   -- VerifyConfig .key
    "transform/textract/textract.go:NewTransform:schema.MustCreateFieldLocator(name)",   -- VerifyConfig checks every capture name (repaired F-10c)
    "transform/textractspecial/textractspecial.go:NewTransform:panic(err)",   -- VerifyConfig builds the extractor with the same function (repaired F-10a/b)
    "transform/textractspecial/textractspecial.go:NewTransform:schema.MustCreateFieldLocator(c.DestKey)",   -- VerifyConfig .key / .destKey
    "transform/textractspecial/textractspecial.go:NewTransform:schema.MustCreateFieldLocator(c.Key)",   -- VerifyConfig .key / .destKey
    "transform/textractspecial/textractspecial.go:getPosition:panic(fmt.Sprintf(\"unsupported position type ')",   -- Type is one of the two registered names
    "transform/tmapvalue/tmapvalue.go:NewTransform:schema.MustCreateFieldLocator(c.Key)",   -- VerifyConfig .key
    "transform/tparsetime/tparsetime.go:NewTransform:schema.MustCreateFieldLocator(cfg.Key)",   -- VerifyConfig .key
    "transform/tredactemail/tredactemail.go:NewTransform:schema.MustCreateFieldLocator(cfg.Key)",   -- VerifyConfig .key
    "transform/treplace/treplace.go:NewTransform:regexp.MustCompile(c.Pattern)",   -- VerifyConfig compiles the pattern
    "transform/treplace/treplace.go:NewTransform:schema.MustCreateFieldLocator(c.Key)",   -- VerifyConfig .key
    "transform/ttruncate/ttruncate.go:NewTransform:schema.MustCreateFieldLocator(c.Key)",   -- VerifyConfig .key
    "transform/tunescape/tunescape.go:NewTransform:schema.MustCreateFieldLocator(c.Key)"   -- VerifyConfig .key
  ]

theorem C16_fact_must_sites : Facts.cfg_must_sites = reviewedMustSites := rfl
theorem C16_fact_star_needs_boundary : Facts.xform_star_requires_far_boundary = some true := rfl
theorem C16_fact_sections_checked : Facts.cfg_missing_sections_rejected = some true := rfl

/-! ### non-vacuity and the code before the repairs -/

def sampleSchema : Schema := { names := [b!"host", b!"app", b!"log"] }
def sampleCfg : List TC :=
  [.iff [(b!"app", .startsWith (b!"web"))]
     [.extract false (b!"log") (b!"\\[*\\] ") 50 (b!"app"), .addFields [(b!"host", some [.lit (b!"h-"), .var (b!"host")])]],
   .drop [(b!"log", .contains (b!"debug"))] 50 (b!"dbg")]

example : verifySteps sampleSchema sampleCfg = true := by rfl
/-- F-10 (a): `foo*` for extractHead was accepted before the repair; the repaired verification rejects it -/
example : verifyStep sampleSchema (.extract false (b!"log") (b!"foo*") 50 (b!"app")) = false := by rfl
/-- a reference to a field that is not in the schema is rejected at every nesting depth -/
example : verifySteps sampleSchema [.block [.iff [(b!"app", .any)] [.unescape (b!"nosuchfield")]]] = false := by rfl

/-! ### the output section: serializer and rewriters (`Model/CfgSer.lean`) -/

open CfgSer in
theorem chainVerify_cons (sch : Cfg.Schema) (r : Rw) (rest : List Rw) :
    chainVerify sch (r :: rest) = (rwVerify sch (!rest.isEmpty) r && chainVerify sch rest) := by
  cases rest <;> simp [chainVerify]

open CfgSer in
theorem rwNew_safe {sch : Cfg.Schema} {next : Option Rewriter} {r : Rw} (h : rwVerify sch next.isSome r = true) :
    (rwNew sch next r).Safe := by
  cases r with
  | unspecified => cases h
  | copy | unescape =>
    have : next.isSome = false := by simpa [rwVerify] using h
    rw [rwNew, this]; exact GoM.safe_ok _
  | inline f =>
    simp only [rwVerify, Bool.and_eq_true, and_assoc] at h
    obtain ⟨hnext, -, hloc⟩ := h
    obtain ⟨n, rfl⟩ := Option.isSome_iff_exists.mp hnext
    obtain ⟨i, hi⟩ := Option.isSome_iff_exists.mp hloc
    simp only [rwNew, hi]; exact GoM.safe_ok _

open CfgSer GoM in
theorem chainNew_ok (sch : Cfg.Schema) : ∀ (ch : List Rw), chainVerify sch ch = true →
    ∃ r, chainNew sch ch = .ok r ∧ r.isSome = !ch.isEmpty
  | [], _ => ⟨none, rfl, rfl⟩
  | r :: rest, h => by
    rw [chainVerify_cons, Bool.and_eq_true] at h
    obtain ⟨next, hn, hs⟩ := chainNew_ok sch rest h.2
    obtain ⟨x, hx⟩ := rwNew_safe (next := next) (hs ▸ h.1)
    exact ⟨some x, by rw [chainNew, hn, ok_bind, hx]; rfl, rfl⟩

open CfgSer GoM in
theorem buildRewriters_safe (sch : Cfg.Schema) (m : List (Bytes × List Rw)) (hm : ∀ p ∈ m, chainVerify sch p.2 = true) :
    ∀ (names : List Bytes), (buildRewriters sch m names).Safe
  | [] => safe_ok []
  | name :: rest => by
    rw [buildRewriters]
    have tail := fun (h : Option Rewriter) =>
      safe_bind (buildRewriters_safe sch m hm rest) fun t _ => safe_ok (h :: t)
    split
    next ch hl =>
      -- `lookupRw` is `Assoc.get`: the chain found is an entry of the section
      exact safe_bind ((chainNew_ok sch ch (hm (name, ch) (Assoc.mem_of_get hl))).imp fun _ h => h.1) fun h _ => tail h
    · exact tail none

theorem mapM_locate_eq {sch : Cfg.Schema} : ∀ {l : List Bytes}, l.all (fun f => (Cfg.locate sch f).isSome) = true →
    l.mapM (Cfg.locate sch) = some (l.map (loc sch))
  | [], _ => rfl
  | f :: r, h => by
    simp only [List.all_cons, Bool.and_eq_true] at h
    rw [List.mapM_cons, locate_loc h.1, mapM_locate_eq h.2]; rfl

open CfgSer in
/-- **C16 (the output section).** A Fluentd Forward output section that `VerifyConfig` accepts is instantiated —
environment-field locators, one rewriter chain per rewritten schema field (masked or not), field masks — without reaching
a `logger.Panic` / `Must…` site of `NewEventSerializer`, `NewRewritersFromConfig` or a rewriter's `NewRewriter`, and
without an error value. -/
theorem C16_serializer_verify_sound (sch : Cfg.Schema) (c : Out) (h : verify sch c = true) :
    ∃ s, construct sch c = .ok (some s) := by
  simp only [verify, Bool.and_eq_true, and_assoc] at h
  -- env non-empty, env located, hidden located, rewrites verified, mode / address
  obtain ⟨-, henv, -, hrw, -⟩ := h
  have hm : ∀ p ∈ c.rewrite, chainVerify sch p.2 = true := fun p hp =>
    ((Bool.and_eq_true _ _).mp (List.all_eq_true.mp hrw p hp)).2
  obtain ⟨l, hl⟩ := buildRewriters_safe sch c.rewrite hm sch.names
  exact ⟨_, by rw [construct, mapM_locate_eq henv]; simp only [GoM.ok_bind, hl]; rfl⟩

def demoSch : Cfg.Schema := ⟨[b!"log", b!"class", b!"task"]⟩
def demoOut (ch : List CfgSer.Rw) : CfgSer.Out :=
  { env := [b!"task"], hidden := [b!"class"], rewrite := [(b!"class", ch)], mode := b!"Forward",
    addrGiven := true, addrSplits := true, maxDurationSet := true }

open CfgSer in
/-- what verification rules out, on concrete sections: `inline` last, a step after `copy`, an unknown inline field, an entry
without a value — each reaches a panic site when instantiated, also on a hidden field (non-vacuity of the theorem's premise
and of the panic sites) -/
example :
    verify demoSch (demoOut [.inline (b!"task"), .unescape]) = true ∧
    verify demoSch (demoOut [.inline (b!"task")]) = false ∧ (construct demoSch (demoOut [.inline (b!"task")])).toOption = none ∧
    verify demoSch (demoOut [.copy, .unescape]) = false ∧ (construct demoSch (demoOut [.copy, .unescape])).toOption = none ∧
    verify demoSch (demoOut [.inline (b!"nope"), .copy]) = false ∧
      (construct demoSch (demoOut [.inline (b!"nope"), .copy])).toOption = none ∧
    verify demoSch (demoOut [.unspecified]) = false ∧ (construct demoSch (demoOut [.unspecified])).toOption = none :=
  ⟨rfl, rfl, rfl, rfl, rfl, rfl, rfl, rfl, rfl⟩

/-! ### the head of the file: schema, orchestration keys and tag, metric keys (`Model/CfgFile.lean`) -/

open CfgFile in
theorem nodupB_iff : ∀ (l : List Bytes), nodupB l = true ↔ l.Nodup
  | [] => by simp [nodupB]
  | x :: r => by simp [nodupB, nodupB_iff r]

open CfgFile in
/-- **C16 (the head of the file).** A schema, orchestration section and metric-key list that `ParseConfigFile` accepts are
instantiated without reaching `NewOrchestrator`'s `Panicf` sites (key locators, tag builder), `MustCreateFieldLocators` of
the metric keys, or the Prometheus client's panic on a repeated label name (a key listed twice or in both lists). -/
theorem C16_file_head_verify_sound (h : Head) (hv : verify h = true) : ∃ b, construct h = .ok b := by
  simp only [verify, orchOK, metricOK, Bool.and_eq_true, and_assoc] at hv
  -- schemaOK; orchOK: non-empty, located, distinct, tag, tag variables; metricOK: non-empty, located, distinct, disjoint
  obtain ⟨-, -, hk, hkn, -, htag, -, hm, hmn, hdis⟩ := hv
  -- no key twice in either list, none in both: the label names are distinct
  have hnd : nodupB (h.orchKeys ++ h.metricKeys) = true := by
    rw [nodupB_iff] at *
    refine List.nodup_append.mpr ⟨hkn, hmn, fun x hx y hy e => ?_⟩
    subst e
    simpa [hx] using List.all_eq_true.mp hdis x hy
  exact ⟨_, by simp only [construct, mapM_locate_eq hk, mapM_locate_eq hm, htag, hnd]; rfl⟩

open CfgFile in
/-- what the checks rule out, concretely: a key listed twice, a key in both lists, a tag variable that is no key — each is
rejected and each reaches a panic site when instantiated -/
example :
    let mk (ok mk' : List Bytes) (tp : Cfg.Tmpl) : Head :=
      { fields := [b!"host", b!"app", b!"log"], maxFields := 5, orchKeys := ok, tag := b!"t", tagParts := tp, metricKeys := mk' }
    verify (mk [b!"host"] [b!"app"] (some [.lit (b!"t."), .var (b!"host")])) = true ∧
    verify (mk [b!"host", b!"host"] [b!"app"] (some [])) = false ∧ (construct (mk [b!"host", b!"host"] [b!"app"] (some []))).toOption.isNone = true ∧
    verify (mk [b!"host"] [b!"host"] (some [])) = false ∧ (construct (mk [b!"host"] [b!"host"] (some []))).toOption.isNone = true ∧
    verify (mk [b!"host"] [b!"app"] (some [.var (b!"app")])) = false ∧
      (construct (mk [b!"host"] [b!"app"] (some [.var (b!"app")]))).toOption.isNone = true :=
  ⟨rfl, rfl, rfl, rfl, rfl, rfl, rfl⟩

open CfgFile in
/-- **C16 (a syslog input).** An input section that `VerifyConfig` accepts gives every connection its parser and its
extraction transforms without reaching `MustNewParser`'s panic (level mapping of the wrong length, a parser field the
schema lacks) or a `Must…` site of an extraction step. -/
theorem C16_input_verify_sound (sch : Cfg.Schema) (i : Input) (h : inputOK sch i = true) :
    ∃ prog, constructInput sch i = .ok prog := by
  simp only [inputOK, Bool.and_eq_true, and_assoc] at h
  -- address, levels, extractions non-empty, parser fields, extraction steps
  obtain ⟨-, -, -, hp, hs⟩ := h
  obtain ⟨prog, nx, h1, _⟩ := C16_verify_sound sch i.extractions hs
  exact ⟨prog, by simp [constructInput, hp, h1]⟩

end C16
