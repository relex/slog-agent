import SlogModel.Lemmas.Pool
import SlogModel.Lemmas.List
import SlogModel.Gen.Facts

/-!
  C12, the pooling mechanism itself — `Model/Pool.lean` is `base/logallocator.go`.

  * `C12_pool_holds_clean_records` : after every sequence of `NewRecord` / field writes / `Release` calls — any number of
      outputs, any choice `sync.Pool` makes, records released fewer times than they have outputs (dropped records) — every
      record in the pool has all fields empty, raw length 0, zero timestamp, reference count 0 and no backing buffer.
  * `C12_new_record_is_clean` : hence the record `NewRecord` hands out never carries a field value, length or timestamp of
      an earlier record, whichever pooled record it is, and starts with exactly one reference per output.
  * `C12_live_counts_positive` : a record that is handed out has a positive count, so `Release` on it cannot reach the
      "negative reference count" panic.
  * `C12_backing_buffers_disjoint` : no backing buffer is referenced by two handed-out records or sits in the buffer pool
      while one references it; `C12_one_release_per_output_recycles` : `outputs` releases of a new record are all enabled
      and the last one recycles it.
  * the one piece of state `Release` leaves behind is `Unescaped` (witness below); the parser assigns it for every record
      (`C12_fact_parser_assigns_unescaped`).
-/

namespace C12Pool
open Pool

structure Inv (s : St) : Prop where
  pool : ∀ p ∈ s.pool, Clean p.2 ∧ p.2.refCount = 0 ∧ p.2.backbuf = none
  live : ∀ p ∈ s.live, 0 < p.2.refCount

theorem fresh_clean (n : Nat) : Clean (fresh n) := ⟨fun _ hf => (List.mem_replicate.mp hf).2, rfl, rfl⟩

theorem cleared_clean (r : Rec) : Clean (cleared r) :=
  ⟨fun f hf => by obtain ⟨_, _, rfl⟩ := List.mem_map.mp hf; rfl, rfl, rfl⟩

theorem fresh_length (n : Nat) : (fresh n).fields.length = n := List.length_replicate

theorem cleared_length (r : Rec) : (cleared r).fields.length = r.fields.length := List.length_map _

theorem Inv.got {s : St} (hi : Inv s) {src : Option Nat} {r : Rec} {pool' : List (Nat × Rec)} (hg : Got s src r pool') :
    Clean r ∧ r.refCount = 0 ∧ r.backbuf = none := by
  cases hg with
  | fresh => exact ⟨fresh_clean _, rfl, rfl⟩
  | pooled h => exact hi.pool _ (Assoc.mem_of_get h)

theorem step_inv {s : St} {o : Op} {s' : St} (hout : 0 < s.outputs) (h : Step s o s') (hi : Inv s) : Inv s' := by
  cases h with
  | new hfree hb hg =>
    obtain ⟨_, h0, _⟩ := hi.got hg
    have hpos : 0 < (0 : Int) + s.outputs := by omega
    exact ⟨fun p hp => hi.pool p (hg.sublist.subset hp), forall_mem_snoc hi.live (h0 ▸ hpos)⟩
  | modify hl m =>
    refine ⟨hi.pool, fun p hp => ?_⟩
    rcases mem_update hp with hp | rfl
    · exact hi.live p hp
    · exact m.frame.2 (hi.live _ (Assoc.mem_of_get hl))
  | @recycle hd r hl hc =>
    exact ⟨forall_mem_snoc hi.pool ⟨cleared_clean _, rfl, rfl⟩, fun p hp => hi.live p (Assoc.mem_del hp)⟩

def init (nFields outputs : Nat) : St := { nFields := nFields, outputs := outputs }

theorem reach_inv {nFields outputs : Nat} (hout : 0 < outputs) {ops : List Op} {s : St}
    (h : run (init nFields outputs) ops = some s) : Inv s ∧ s.outputs = outputs :=
  run_inv_of_step (P := fun s => Inv s ∧ s.outputs = outputs)
    (fun hs hi => ⟨step_inv (hi.2 ▸ hout) hs hi.1, hs.outputs.trans hi.2⟩) h
    ⟨⟨fun _ hp => absurd hp List.not_mem_nil, fun _ hp => absurd hp List.not_mem_nil⟩, rfl⟩

/-- **C12 (what the pool holds).** -/
theorem C12_pool_holds_clean_records (nFields outputs : Nat) (hout : 0 < outputs) (ops : List Op) (s : St)
    (h : run (init nFields outputs) ops = some s) :
    ∀ p ∈ s.pool, Clean p.2 ∧ p.2.refCount = 0 ∧ p.2.backbuf = none :=
  (reach_inv hout h).1.pool

/-- **C12 (a new record carries nothing of an earlier one).** Whatever happened before and whichever pooled record
`sync.Pool` returns, the record `NewRecord` hands out has every field empty, raw length 0 and the zero timestamp, and one
reference per output. -/
theorem C12_new_record_is_clean (nFields outputs : Nat) (hout : 0 < outputs) (ops : List Op) (s s' : St)
    (h : run (init nFields outputs) ops = some s) (hd : Nat) (src : Option Nat) (big : Option Nat)
    (hn : step s (.new hd src big) = some s') :
    ∃ r, lookup s'.live hd = some r ∧ Clean r ∧ r.refCount = outputs := by
  obtain ⟨hi, ho⟩ := reach_inv hout h
  cases Step.of_step hn with
  | new hfree hb hg =>
    obtain ⟨hc, h0, _⟩ := hi.got hg
    exact ⟨_, lookup_snoc_new _ hfree, hc, by simp [h0, ho]⟩
  | modify hl m => nomatch m

/-- **C12 (no negative reference count).** -/
theorem C12_live_counts_positive (nFields outputs : Nat) (hout : 0 < outputs) (ops : List Op) (s : St)
    (h : run (init nFields outputs) ops = some s) : ∀ p ∈ s.live, 0 < p.2.refCount :=
  (reach_inv hout h).1.live

/-- non-vacuity, two outputs: a record is recycled by its second release and reused; a dropped record (released once) is not -/
example : (run (init 3 2) [.new 0 none (some 7), .set 0 1 [97], .hdr 0 40 true true, .release 0, .release 0,
                            .new 1 none none, .set 1 0 [98], .release 1, .new 2 (some 0) (some 7)]).map
            (fun s => (s.pool.map (·.1), s.live.map (fun p => (p.1, p.2.fields, p.2.rawLength, p.2.tsSet, p.2.refCount.toNat)))) =
    some ([], [(1, [[98], [], []], 0, false, 1), (2, [[], [], []], 0, false, 2)]) := by rfl

/-- `Release` does not reset `Unescaped`: the reused record still carries the flag of the record before it -/
example : (run (init 1 1) [.new 0 none none, .hdr 0 9 true true, .release 0, .new 1 (some 0) none]).map
            (fun s => s.live.map (fun p => p.2.unescaped)) = some [true] := rfl

/-! ### backing buffers: no buffer is shared, none is in the pool while a record uses it -/

structure BInv (s : St) : Prop where
  handles : (s.live.map (·.1)).Nodup
  bufs : (liveBufs s.live ++ s.bufPool).Nodup

theorem step_binv {s : St} {o : Op} {s' : St} (h : Step s o s') (hi : BInv s) : BInv s' := by
  cases h with
  | modify hl m =>
    exact ⟨(map_fst_update ..).symm ▸ hi.handles, (liveBufs_update hi.handles hl m.frame.1).symm ▸ hi.bufs⟩
  | @recycle hd r hl hc =>
    refine ⟨(Assoc.keys_del_sublist s.live hd).nodup hi.handles, ?_⟩
    -- the record's buffer moves from the buffers in use to the end of the buffer pool
    refine nodup_of_count_le hi.bufs fun x => ?_
    have := count_liveBufs_remove hi.handles hl x
    simp only [List.count_append] at this ⊢
    omega
  | @new hd src buf bp r pool' hfree hb hg =>
    refine ⟨Assoc.nodup_snoc _ hi.handles (Assoc.get_eq_none.mp hfree), ?_⟩
    -- the new entry carries `buf`: it left the buffer pool, or is new to the system
    have hb0 := hi.bufs
    simp only [liveBufs, List.filterMap_append, List.filterMap_cons, List.filterMap_nil] at hb0 ⊢
    -- the three enabled branches of `takeBuf`: no buffer, a pooled one, a new one
    revert hb
    fun_cases takeBuf s buf <;> intro hb <;> cases hb
    next => simpa using hb0
    next b hin => rw [List.append_assoc, List.singleton_append]; exact ((List.perm_cons_erase hin).append_left _).nodup_iff.mp hb0
    next b hnin hnl =>
      rw [List.append_assoc, List.singleton_append]
      exact List.perm_middle.nodup_iff.mpr (List.nodup_cons.mpr ⟨fun hm => (List.mem_append.mp hm).elim hnl hnin, hb0⟩)

theorem init_binv (nFields outputs : Nat) : BInv (init nFields outputs) := ⟨List.nodup_nil, List.nodup_nil⟩

/-- **C12 (backing buffers are never shared).** After every sequence of `NewRecord` / writes / `Release` calls — whichever
pooled record and whichever pooled buffer the pools hand out — no backing buffer is referenced by two records that are handed
out, and no buffer sits in the buffer pool while a handed-out record still references it: the bytes a record's field values
point into are never another live record's, and are not given to a new record before this one is recycled. -/
theorem C12_backing_buffers_disjoint (nFields outputs : Nat) (ops : List Op) (s : St)
    (h : run (init nFields outputs) ops = some s) : (liveBufs s.live ++ s.bufPool).Nodup :=
  (run_inv_of_step step_binv h (init_binv _ _)).bufs

/-- non-vacuity: a buffer is reused only after the record that held it was recycled; while it is in use the model refuses to
hand it out again -/
example : (run (init 1 1) [.new 0 none (some 7), .release 0, .new 1 (some 0) (some 7)]).map (fun s => (liveBufs s.live, s.bufPool)) =
    some ([7], []) := by rfl
example : (run (init 1 1) [.new 0 none (some 7), .new 1 none (some 7)]).isNone = true := by rfl

/-! ### the callers' discipline: one `Release` per output recycles, never more -/

theorem releases_recycle : ∀ (k : Nat) (s : St) (h : Nat) (r : Rec), lookup s.live h = some r → r.refCount = (k : Int) + 1 →
    ∃ s', run s (List.replicate (k + 1) (.release h)) = some s' ∧ lookup s'.live h = none ∧ h ∈ s'.pool.map (·.1)
  | 0, s, h, r, hl, hc =>
    ⟨_, by rw [List.replicate, List.replicate, run, step_release_last hl (by omega)]; rfl, by rw [lookup_remove, if_pos rfl],
      List.mem_map.mpr ⟨_, List.mem_append_right _ (List.mem_singleton.mpr rfl), rfl⟩⟩
  | k + 1, s, h, r, hl, hc => by
    obtain ⟨s', h1, h2, h3⟩ := releases_recycle k { s with live := update s.live h { r with refCount := r.refCount - 1 } } h
      { r with refCount := r.refCount - 1 } (lookup_update_self _ hl) (by simp only []; omega)
    refine ⟨s', ?_, h2, h3⟩
    rw [List.replicate, run, step_release_more hl (by omega)]
    exact h1

/-- **C12 (the processing worker's releases).** From any reachable state: after `NewRecord`, the `outputs` releases of a
record that passes (one after each output has serialized it) are all enabled — none reaches the negative-count panic — and
the last one recycles the record. -/
theorem C12_one_release_per_output_recycles (nFields outputs : Nat) (hout : 0 < outputs) (ops : List Op) (s s1 : St)
    (h : run (init nFields outputs) ops = some s) (hd : Nat) (src : Option Nat) (buf : Option Nat)
    (hn : step s (.new hd src buf) = some s1) :
    ∃ s2, run s1 (List.replicate outputs (.release hd)) = some s2 ∧ lookup s2.live hd = none ∧ hd ∈ s2.pool.map (·.1) := by
  obtain ⟨r, hl, _, hc⟩ := C12_new_record_is_clean nFields outputs hout ops s s1 h hd src buf hn
  obtain ⟨k, rfl⟩ : ∃ k, outputs = k + 1 := ⟨outputs - 1, by omega⟩
  exact releases_recycle k s1 hd r hl (by rw [hc]; simp)

/-! ### fact obligations (Tie B) -/

/-- `Release`, statement by statement -/
theorem C12_fact_release : Facts.pool_release =
    ["record._refCount--", "if record._refCount < 0 {", "logger.Panic(\"negative reference count in record: \", record)", "}",
     "if record._refCount > 0 {", "return", "}", "for i := range record.Fields { record.Fields[i] = \"\" }",
     "record.RawLength = 0", "record.Timestamp = time.Time{}", "alloc.recycleRecord(record)"] := rfl
/-- `recycleRecord` and the head of `NewRecord` -/
theorem C12_fact_recycle : Facts.pool_recycle =
    ["if record._backbuf != nil {", "alloc.backbufPools.Put(record._backbuf)", "record._backbuf = nil", "}", "alloc.recordPool.Put(record)"] ∧
    Facts.pool_new_head = ["record := alloc.recordPool.Get().(*LogRecord)", "record._refCount += alloc.initialRefCount"] := ⟨rfl, rfl⟩
/-- the syslog parser assigns `Unescaped` for every record it returns, unconditionally -/
theorem C12_fact_parser_assigns_unescaped : Facts.parse_unescaped_assignment = ["record.Unescaped = strings.IndexByte(remaining, '\\n') != -1"] := rfl

/-- the callers of `Release`: the parser for a malformed line, the extraction stage and the processing worker for a dropped
record (one release each), and the processing worker once per output for a record that passes -/
theorem C12_fact_release_sites : Facts.pool_release_sites =
    ["base/bsupport/logprocessingworker.go:onInput:worker.deallocator.Release",
     "base/bsupport/logprocessingworker.go:onInput:worker.deallocator.Release",
     "input/sysloginput/compositeparser.go:Parse:cp.deallocator.Release",
     "input/syslogparser/syslogparser.go:onMalformed:parser.allocator.Release"] := rfl

end C12Pool
