import SlogModel.Lemmas.Client
import SlogModel.Lemmas.ClientHealthy
import SlogModel.Gen.Facts

/-!
  C02 — The upstream client confirms a chunk only after its ACK and never loses one.

  All theorems quantify over every finite sequence of actions of the transition system
  `Client.step` — every interleaving of the sender, the acknowledger and the worker loop with every
  outcome of connect / send / ACK read (ok, error, unknown id), every stop moment and every soft
  reconnect — from an initial state whose queue holds distinct chunk ids.

  * `C02_resolved_exactly_once` : at every reachable state each chunk taken from the queue is — with
      multiplicity — exactly one of: confirmed, handed back, or still held (leftovers, chunk in hand,
      acknowledger channel, pending map); no chunk is confirmed or handed back twice; once the client
      has finished nothing is held any more.
  * `C02_dedup_never_removes` : the de-duplication in `newLeftoverChannel` never drops a chunk.
  * `C02_confirmed_after_ack` : every confirmed chunk was completely transmitted (`sendOk`) on a
      connection and afterwards acknowledged on that same connection, by its own id or positionally.
  * `C02_finished_all_resolved` : once the client has finished nothing is held; every taken chunk is
      confirmed or handed back, exactly once.
  * `C02_resend_order` : on every connection the transmitted ids strictly increase (leftovers first).
  * `C02_trace_resolved_once` : in the event log the `consumed` and `leftover` events name no chunk twice.
  * `C02_monitored_trace` : a log of the real client accepted by `Client.monitor` is a run of the
      transition system (`monitor_sound`), so its callbacks resolve every taken chunk exactly once.
  * `C02_can_always_deliver`, `C02_retransmitted_until_acked`, `C02_healthy_future_*` : liveness as possibility from every
      state and as a bound from good states.  PARTIAL: fairness of the scheduler is left out (DESIGN.md).
-/

open Client

namespace C02

/-- **C02 (resolved exactly once).** -/
theorem C02_resolved_exactly_once (q : List Nat) (hq : q.Nodup) (acts : List Act) (s : St)
    (h : run (init q) acts = some s) :
    (∀ c, s.taken.count c = (s.confirmed ++ s.handed ++ inflight s).count c) ∧
    (s.confirmed ++ s.handed ++ inflight s).Nodup := by
  have hi := run_inv h (init_inv q hq)
  exact ⟨hi.cons, hi.resolved_nodup⟩

/-- **C02 (confirmed only after its ACK).** Every chunk reported as delivered was completely
transmitted on some connection (`sendOk k c`) and later acknowledged on that same connection — by
its own id, or positionally (an empty id acknowledges the chunk the acknowledger is waiting for) —
immediately before being reported. -/
theorem C02_confirmed_after_ack (q : List Nat) (acts : List Act) (s : St)
    (h : run (init q) acts = some s) : ∀ c ∈ s.confirmed, Justified s.hist c := by
  have hinv :=
    run_inv_of_step (P := fun s => (∀ x, s.sess = some x → SessOK s x) ∧ Sent s ∧ ∀ c ∈ s.confirmed, Justified s.hist c)
      (fun h ⟨hok, hs, hj⟩ => ⟨step_sessOK h hok, step_sent h hs, step_just h hok hs hj⟩) h
      ⟨init_sessOK q, fun x hx => by simp [init] at hx, fun c hc => by simp [init] at hc⟩
  exact hinv.2.2

/-- **C02 (the trace shows each resolution once).** In the event log of every execution the
`consumed` events are exactly the confirmed chunks and the `leftover` events exactly the chunks
handed back; together they contain no id twice (clause of `Client.checkTrace`). -/
theorem C02_trace_resolved_once (q : List Nat) (hq : q.Nodup) (acts : List Act) (s : St)
    (h : run (init q) acts = some s) : (consumedOf s.hist ++ leftoverOf s.hist).Nodup := by
  have he := run_evinv h (by simp [EvInv, init, consumedOf, leftoverOf])
  rw [he.1, he.2]
  exact (List.nodup_append.mp (C02_resolved_exactly_once q hq acts s h).2).1

/-- **C02 (nothing is lost).** Once the client has finished, every chunk it ever received from the
queue is — exactly once — either confirmed or handed back as a leftover; nothing is still held. -/
theorem C02_finished_all_resolved (q : List Nat) (hq : q.Nodup) (acts : List Act) (s : St)
    (h : run (init q) acts = some s) (hf : s.finished = true) :
    inflight s = [] ∧ (∀ c, s.taken.count c = (s.confirmed ++ s.handed).count c) ∧
    (s.confirmed ++ s.handed).Nodup := by
  obtain ⟨h1, h2⟩ := run_inv_of_step step_finv h (by intro hh; simp [init] at hh) hf
  have hin : inflight s = [] := by simp [inflight, h1, h2]
  obtain ⟨k1, k2⟩ := C02_resolved_exactly_once q hq acts s h
  rw [hin] at k1 k2
  simp only [List.append_nil] at k1 k2
  exact ⟨hin, k1, k2⟩

/-- **C02 (resend order).** On every connection chunks are transmitted in strictly increasing id
order — leftovers of the previous connection first (sorted, de-duplicated), new chunks after — and
every chunk still queued is newer than everything taken so far. -/
theorem C02_resend_order (q : List Nat) (hq : q.Pairwise (· < ·)) (acts : List Act) (s : St)
    (h : run (init q) acts = some s) :
    (∀ k, (sentOn k s.hist).Pairwise (· < ·)) ∧ s.left.Pairwise (· < ·) ∧
    (∀ t ∈ s.taken, ∀ c ∈ s.queue, t < c) := by
  have hn : q.Nodup := hq.imp (fun h => Nat.ne_of_lt h)
  have ho := (run_inv_of_step (P := fun s => Inv s ∧ OInv s) (fun h ⟨hi, ho⟩ => ⟨step_inv h hi, step_oinv h hi ho⟩) h
    ⟨init_inv q hn, init_oinv q hq⟩).2
  exact ⟨ho.all, ho.l, ho.tq⟩

/-- the sort and de-duplication in `newLeftoverChannel` keeps every chunk id (multiplicity: `newLeft_count`) -/
theorem C02_dedup_never_removes (l : List Nat) (h : l.Nodup) (c : Nat) : c ∈ newLeft l ↔ c ∈ l :=
  newLeft_mem l c


/-- **C02 (every unacknowledged chunk can be delivered — no wedge).** From every state in which the
client has not finished, whatever faults and interleavings led to it, there is a continuation — the one
a well-behaved upstream allows — after which every chunk the client held unresolved is confirmed and
nothing is left unresolved.  PARTIAL with respect to the property's liveness clause: this is
possibility from every reachable state (no state is a trap), not inevitability under a fairness
assumption on the real scheduler. -/
theorem C02_can_always_deliver (s : St) (hf : s.finished = false) (hok : ∀ x, s.sess = some x → SessOK s x) :
    ∃ acts s', run s acts = some s' ∧ (∀ c ∈ inflight s, c ∈ s'.confirmed) ∧ inflight s' = [] ∧
      s'.queue = s.queue ∧ s'.handed = s.handed ∧ s'.taken = s.taken ∧ s'.finished = false := by
  -- end the session, if there is one: what it held is among the leftovers then
  have hpre : ∃ pre t, run s pre = some t ∧ t.sess = none ∧ (∀ c ∈ inflight s, c ∈ t.left) ∧
      t.confirmed = s.confirmed ∧ Untouched s t := by
    cases hs : s.sess with
    | none => exact ⟨[], s, rfl, hs, fun c hc => by simpa [inflight, hs] using hc, rfl, .refl s⟩
    | some x =>
      obtain ⟨t, t1, t2, t3, t4⟩ := close_session s x hs (hok x hs)
      exact ⟨_, t, t1, t2, fun c hc => (t3 c).mpr hc, t4⟩
  obtain ⟨pre, t, t1, t2, t3, t4, tu⟩ := hpre
  obtain ⟨s', a, b, c, u⟩ := after_connect t t2 (tu.finished.trans hf)
  have u := tu.trans u
  exact ⟨pre ++ _, s', run_trans t1 a, fun y hy => b ▸ List.mem_append_right _ (t3 y hy), c, u.queue, u.handed, u.taken,
    u.finished.trans hf⟩

/-- **C02 (retransmitted, oldest first, until acknowledged — as possibility).** Every reachable state in
which the client has not finished has a continuation in which every chunk it holds unresolved is
retransmitted and acknowledged; in that continuation, as in every run, the chunks go out on each
connection in strictly increasing id order. -/
theorem C02_retransmitted_until_acked (q : List Nat) (hq : q.Pairwise (· < ·)) (acts : List Act) (s : St)
    (h : run (init q) acts = some s) (hf : s.finished = false) :
    ∃ more s', run (init q) (acts ++ more) = some s' ∧ (∀ c ∈ inflight s, c ∈ s'.confirmed) ∧
      inflight s' = [] ∧ (∀ k, (sentOn k s'.hist).Pairwise (· < ·)) := by
  have hn : q.Nodup := hq.imp (fun h => Nat.ne_of_lt h)
  have hi := run_inv h (init_inv q hn)
  obtain ⟨more, s', a, b, c, _⟩ := C02_can_always_deliver s hf hi.sess
  have hr := run_trans h a
  exact ⟨more, s', hr, b, c, (C02_resend_order q hq _ s' hr).1⟩

/-! ### once the upstream behaves: every schedule confirms everything, in a bounded number of steps

`C02_can_always_deliver` shows a way out of every state.  The theorems below are about *every* way: from a good state —
between two sessions, or inside a session in which nothing has failed yet — and with an upstream that from then on accepts
connections, takes every chunk and acknowledges the chunk the acknowledger waits for (`C02.healthy`: the eight actions that
remain), every run, under every interleaving of sender and acknowledger, is at most `C02.mu s` steps long (6 per chunk waiting,
less for chunks further along), keeps the state good, and can only stop when leftovers, queue and session are empty — every
chunk taken is then confirmed or was handed back.  What this leaves out is fairness (that the goroutines do take their steps) and the states that
are not good: a session in which an ACK with an unknown id left a chunk pending behind the acknowledger's back stays as it is
until the session ends (maximum session age, the next error, a reconnect request), which is what `C02_can_always_deliver`
covers. -/

theorem good_between_sessions (s : St) (hf : s.finished = false) (hs : s.sess = none) : Good s :=
  ⟨hf, by intro x hx; rw [hs] at hx; cases hx⟩

/-- **C02 (bounded, schedule-independent delivery once the upstream behaves).** -/
theorem C02_healthy_future_confirms_everything (q : List Nat) (hq : q.Nodup) (pre : List Act) (s : St)
    (h : run (init q) pre = some s) (hg : Good s)
    (acts : List Act) (hacts : ∀ a ∈ acts, a ∈ healthy) (s' : St) (h' : run s acts = some s') :
    acts.length ≤ mu s ∧ Good s' ∧
      ((∀ a ∈ healthy, step s' a = none) →
        s'.left = [] ∧ s'.queue = [] ∧ ∀ c ∈ s'.taken, c ∈ s'.confirmed ∨ c ∈ s'.handed) := by
  obtain ⟨g', hm⟩ := healthy_run acts s s' hacts h' hg
  refine ⟨by omega, g', ?_⟩
  intro hstuck
  obtain ⟨h1, h2, h3⟩ := healthy_stuck s' g' hstuck
  refine ⟨h1, h2, ?_⟩
  have hrun := run_trans h h'
  have hc := (run_inv hrun (init_inv q hq)).cons
  intro c hc'
  have := hc c
  rw [h3, List.append_nil] at this
  have hpos : 0 < (s'.confirmed ++ s'.handed).count c := by rw [← this]; exact List.count_pos_iff.mpr hc'
  exact List.mem_append.mp (List.count_pos_iff.mp hpos)

/-- … and such a run to the end exists from every good state (it is any healthy run that is continued while it can be) -/
theorem C02_healthy_future_exists : ∀ (n : Nat) (s : St), mu s ≤ n → Good s →
    ∃ acts s', (∀ a ∈ acts, a ∈ healthy) ∧ run s acts = some s' ∧ ∀ a ∈ healthy, step s' a = none := by
  intro n
  induction n with
  | zero =>
    -- an enabled healthy action would lower `mu` below zero
    intro s hn hg
    refine ⟨[], s, by simp, rfl, fun a ha => Option.eq_none_iff_forall_ne_some.mpr fun s1 hs => ?_⟩
    have := (healthy_step ha (.of_step hs) hg).2
    omega
  | succ n ih =>
    intro s hn hg
    by_cases hst : ∀ a ∈ healthy, step s a = none
    · exact ⟨[], s, by simp, rfl, hst⟩
    · obtain ⟨a, ha, hne⟩ : ∃ a, a ∈ healthy ∧ ¬step s a = none := by simpa using hst
      obtain ⟨s1, hs⟩ := Option.ne_none_iff_exists'.mp hne
      obtain ⟨g1, m1⟩ := healthy_step ha (.of_step hs) hg
      obtain ⟨acts, s', h1, h2, h3⟩ := ih s1 (by omega) g1
      exact ⟨a :: acts, s', List.forall_mem_cons.mpr ⟨ha, h1⟩, run_step (.of_step hs) h2, h3⟩

/-- non-vacuity: after a failed session (leftover 1, chunks 2 and 3 still queued) the client is between sessions — a good
state with `mu = 20` -/
example : (run (init [1, 2, 3]) [.connectOk, .recoveryDone, .takeInput, .sendErr, .ackChanClosed, .finishCollect]).map
    (fun s => (s.sess.isNone, s.left, s.queue, mu s)) = some (true, [1], [2, 3], 20) := by
  simp [run, step, init, newLeft, dedupSorted, mu]

/-! ### the monitor: an accepted trace of the real client inherits the theorems -/

theorem monitor_sound (q taken : List Nat) (obs : List Obs) (h : monitor q taken obs = none) :
    ∃ acts s, run (init q) acts = some s ∧ s.finished = true ∧ obsCons obs = s.confirmed ∧
      obsLeft obs = s.handed ∧ taken = s.taken := by
  revert h
  -- only the branch in which every comparison succeeded returns `none`
  fun_cases monitor q taken obs <;> intro h <;> cases h
  -- `hs`: the elaborated actions run; the four hypotheses after it: the comparisons
  next acts _ s hs _ _ _ _ => exact ⟨acts, s, hs, by simp_all⟩

/-- **C02 on an observed trace.** If `Client.monitor` accepts the log of a run of the real client
(queue of distinct ids `q`, chunks `taken` from it), then the `consumed` and `leftover` callbacks of
that run together name every taken chunk exactly once. -/
theorem C02_monitored_trace (q taken : List Nat) (obs : List Obs) (hq : q.Nodup)
    (h : monitor q taken obs = none) :
    (obsCons obs ++ obsLeft obs).Nodup ∧ ∀ c, taken.count c = (obsCons obs ++ obsLeft obs).count c := by
  obtain ⟨acts, s, hr, hf, h1, h2, h3⟩ := monitor_sound q taken obs h
  obtain ⟨_, k1, k2⟩ := C02_finished_all_resolved q hq acts s hr hf
  rw [h1, h2, h3]
  exact ⟨k2, k1⟩


/-! ### fact obligations (Tie B): the source still has the shape the transition system transcribes -/

/-- acknowledger: insert into the pending map, read the ACK, `continue` on an unknown id, only then delete and report -/
theorem C02_fact_acker_order : Facts.client_acker_order =
    ["insert:pendingChunksByID[chunk.ID]", "read", "continue", "delete:pendingChunksByID:nextChunk.ID", "callback:nextChunk"] := rfl
theorem C02_fact_acker_handover : Facts.client_acker_handover = ["session.unacked.Store", "session.ackerEnded.Signal"] := rfl
/-- the four leftover sources of `finishCollect` -/
theorem C02_fact_leftover_sources : Facts.client_leftover_sources =
    ["fromPrevious...", "fromAckerChannel...", "fromAckerPending...", "*session.lastChunk"] := rfl
theorem C02_fact_leftover_sort : Facts.client_leftover_sort = ["return chunks[i].ID < chunks[j].ID", "if c.ID == lastChunkID"] := rfl
/-- `lastChunk` is set when a chunk is taken and cleared only after `sendChunk` succeeded (`pushAck`) -/
theorem C02_fact_last_chunk : Facts.client_last_chunk_assignments =
    ["resendLeftovers:&chunk", "resendLeftovers:nil(after-send=true,after-failure-return=true)",
     "processInput:&chunk", "processInput:nil(after-send=true,after-failure-return=true)"] := rfl
theorem C02_fact_acker_cap : Facts.client_acker_chan_cap = ["defs.ForwarderMaxPendingChunksForAck"] ∧
    Facts.client_acker_cap_value = some Client.ackCap := ⟨rfl, rfl⟩
theorem C02_fact_worker_final : Facts.client_worker_final =
    ["defer client.stopped.Signal", "defer client.onFinished", "each-leftover client.onChunkLeft"] := rfl
theorem C02_fact_callback_sites : Facts.client_callback_sites =
    [("session.onChunkAcked", 1), ("client.onChunkAcked", 0), ("client.onChunkLeft", 1), ("client.onFinished", 1)] := rfl

/-! ### non-vacuity: a concrete execution with a failed send, a reconnect, a resend and a stop -/

def demoActs : List Act :=
  [.connectOk, .recoveryDone, .takeInput, .sendOk, .pushAck, .ackRecv, .takeInput, .sendErr, .ackErr,
   .finishCollect, .connectOk, .takeLeft, .sendOk, .pushAck, .ackRecv, .ackOk none, .takeLeft, .sendOk,
   .stopReq, .pushStop, .ackChanClosed, .finishCollect, .workerFinal]

example : (run (init [1, 2, 3]) demoActs).map (fun s => (s.confirmed, s.handed, s.finished, s.queue)) =
    some ([1], [2], true, [3]) := by
  simp [demoActs, run, step, init, newLeft, dedupSorted, ackCap, List.mergeSort, List.MergeSort.Internal.splitInTwo]

end C02
