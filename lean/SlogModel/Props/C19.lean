import SlogModel.Lemmas.BufferCounters
import SlogModel.Props.C03
import SlogModel.Props.C09
import SlogModel.Props.C06
import SlogModel.Props.C02
import SlogModel.Gen.Facts

/-!
  C19 — Metrics balance with what actually happened.

  * `C19_buffer_balance` : in every reachable state of the buffer model (every generation start,
      every operation sequence) `pending_chunks = input{transient} + input{persistent} − consumed −
      leftover − dropped`.
  * `C19_dropped_counts_drops`, `C19_consumed_counts_confirms` : `dropped_chunks_total` is exactly the
      number of chunks the model dropped (the ghost list the conservation theorem C03_conserved speaks
      of), `consumed_chunks_total` exactly the number of confirmations.
  * `C19_shutdown_balance` : after `destroy`, with everything the consumer held resolved, accepted +
      recovered = consumed + dropped + kept (files for the next start).
  * `C19_input_counted_once` : every call of the parser increments exactly one of the pass / drop
      counters (restated from C09).
  * `C19_client_acknowledged_counts_confirmations`, `C19_client_acknowledged_le_forwarded`, `C19_client_balance` :
      over every run of the client transition system the acknowledged counter is the number of confirmations,
      every acknowledged chunk was counted as forwarded, and taken = acknowledged + handed back + held.
  * `C19_labelled_counter_counts_its_records`, `C19_label_sets_distinct` : a counter exported under label values
      `t` was incremented once by every record carrying `t` and by no other.
  Tie: C03's state-by-state comparison covers every buffer counter and gauge after every operation;
  the end-to-end harness compares the summed counters of real agent runs (input passed + dropped = lines
  sent, pipeline passed + dropped = input passed, filtered = pipeline dropped, consumed = distinct chunks
  acknowledged by the upstream = output acknowledged) over fault scripts and restarts; facts pin the
  call sites of the forwarded / acknowledged counters.
-/

open Buffer

namespace C19

/-- **C19 (pending balances).** -/
theorem C19_buffer_balance (cfg : Cfg) (disk : List (Nat × Bytes)) (ops : List Op) (s : St)
    (h : run (recover cfg disk) ops = some s) :
    s.c.pending = (s.c.inT : Int) + s.c.inP - s.c.consumed - s.c.leftover - s.c.dropped := by
  have := (acct_run h).1
  simp only [C03.bal] at this
  omega

/-- **C19 (the dropped counter counts the drops).** -/
theorem C19_dropped_counts_drops (cfg : Cfg) (disk : List (Nat × Bytes)) (ops : List Op) (s : St)
    (h : run (recover cfg disk) ops = some s) : s.c.dropped = s.droppedG.length := by
  have := (acct_run h).2.1
  omega

theorem C19_consumed_counts_confirms (cfg : Cfg) (disk : List (Nat × Bytes)) (ops : List Op) (s : St)
    (h : run (recover cfg disk) ops = some s) : s.c.consumed = s.confirmedG.length := by
  have := (acct_run h).2.2
  omega

/-- **C19 (chunk counts balance at shutdown).** -/
theorem C19_shutdown_balance (cfg : Cfg) (disk : List (Nat × Bytes)) (hd : (disk.map (·.1)).Nodup)
    (ops : List Op) (s : St) (h : run (recover cfg disk) ops = some s) (hl : C03.Legal (recover cfg disk) ops)
    (hdes : s.destroyed = true) (hheld : s.held = []) :
    s.accepted.length = s.c.consumed + s.c.dropped + s.keptG.length := by
  obtain ⟨hc, hn⟩ := C03.C03_shutdown_accounted cfg disk hd ops s h hl hdes
  rw [hheld] at hc hn
  simp only [List.map_nil, List.nil_append] at hc hn
  have hperm : (s.accepted.map (·.1)).Perm (s.confirmedG ++ s.droppedG ++ s.keptG) := by
    rw [List.perm_iff_count]; exact hc
  have := hperm.length_eq
  rw [C19_dropped_counts_drops cfg disk ops s h, C19_consumed_counts_confirms cfg disk ops s h]
  simp at this
  omega

/-- **C19 (every parser call is counted once)** — restated from C09. -/
theorem C19_input_counted_once (raw : Nat) (o : Parse.Outcome) :
    (Parse.counts raw o).passed + (Parse.counts raw o).dropped = 1 ∧
    (Parse.counts raw o).passedBytes + (Parse.counts raw o).droppedBytes = raw :=
  C09.C09_counted_once raw o

/-! ### fact obligations (Tie B) -/

/-- `OnForwarded` is called as soon as `SendChunk` has succeeded — before the hand-off to the acknowledger, which the stop
request or the end of the acknowledger may win (repaired F-18) — and `OnAcknowledged` after the consumed callback -/
theorem C19_fact_client_metric_sites : Facts.metric_client_sites =
    ["sendChunk: OnForwarding", "sendChunk: return on SendChunk error", "sendChunk: OnForwarded", "sendChunk: hand-off select",
     "runAcknowledger: onChunkAcked, OnAcknowledged"] := rfl
/-- the chunk manager updates the pending gauge in every On* callback -/
theorem C19_fact_pending_sites : Facts.metric_pending_sites =
    [("OnChunkInput", 1), ("OnChunkInputRecovered", 1), ("OnChunkConsumed", 2), ("OnChunkLeftover", 2),
     ("OnChunkCorrupted", 2), ("OnChunkDropped", 2)] := rfl   -- 1 = Inc, 2 = Dec

/-- labelled counters are attributed to the right label values: metric key sets are merged with a length prefix per
key (injective: `C06.C06_merge_injective`), so different label tuples never share a counter set -/
theorem C19_fact_metric_keys_separated : Facts.route_metric_merge_length_prefixed = some true := rfl

theorem C19_label_sets_distinct (a b : List Bytes) (h : Route.mergeKey a = Route.mergeKey b) : a = b :=
  C06.C06_merge_injective a b h

/-! ### the forwarding client's counters (forwarded / acknowledged) over every run of `Client.step`

`forwarded_chunks_total` is one per complete transmission (`Client.forwardedN` of the event history: counted when
`SendChunk` has returned nil), `acknowledged_chunks_total` one per `OnChunkConsumed` (`Client.acknowledgedN`).  For every
interleaving and fault script: the acknowledged counter is the number of chunks reported delivered, these are distinct
chunks, each was counted as forwarded before (on the connection that carried its ACK), hence acknowledged ≤ forwarded; and the
counters balance with the queue side: taken = acknowledged + handed back + still held.  The harness compares the real
counters with these functions of the observed trace (`client tracem`) and with what the scripted upstream received. -/

theorem sentOkOf_length : ∀ (h : List Client.Ev), (Client.sentOkOf h).length = Client.forwardedN h
  | [] => rfl
  | e :: r => by cases e <;> simp [Client.sentOkOf, Client.forwardedN, sentOkOf_length r]

theorem mem_sentOkOf : ∀ (h : List Client.Ev) (k c : Nat), Client.Ev.sendOk k c ∈ h → c ∈ Client.sentOkOf h
  | [], _, _, hm => by simp at hm
  | e :: r, k, c, hm => by
    simp only [List.mem_cons] at hm
    rcases hm with rfl | hm
    · simp [Client.sentOkOf]
    · have := mem_sentOkOf r k c hm
      cases e <;> simp [Client.sentOkOf, this]

/-- **C19 (acknowledged counter).** In every reachable state of the client the acknowledged counter equals the number of
chunks reported delivered, and no chunk is among them twice. -/
theorem C19_client_acknowledged_counts_confirmations (q : List Nat) (hq : q.Nodup) (acts : List Client.Act) (s : Client.St)
    (h : Client.run (Client.init q) acts = some s) :
    Client.acknowledgedN s.hist = s.confirmed.length ∧ s.confirmed.Nodup := by
  have he := C02.run_evinv h (by simp [C02.EvInv, Client.init, Client.consumedOf, Client.leftoverOf])
  refine ⟨by simp [Client.acknowledgedN, he.1], ?_⟩
  have := (C02.C02_resolved_exactly_once q hq acts s h).2
  rw [List.append_assoc] at this
  exact (List.nodup_append.mp this).1

/-- **C19 (every acknowledged chunk was counted as forwarded; acknowledged ≤ forwarded).** -/
theorem C19_client_acknowledged_le_forwarded (q : List Nat) (hq : q.Nodup) (acts : List Client.Act) (s : Client.St)
    (h : Client.run (Client.init q) acts = some s) :
    (∀ c ∈ s.confirmed, c ∈ Client.sentOkOf s.hist) ∧ Client.acknowledgedN s.hist ≤ Client.forwardedN s.hist := by
  have hj := C02.C02_confirmed_after_ack q acts s h
  have hsub : ∀ c ∈ s.confirmed, c ∈ Client.sentOkOf s.hist := by
    intro c hc
    obtain ⟨pre, mid, post, k, id, heq, _⟩ := hj c hc
    exact mem_sentOkOf s.hist k c (by rw [heq]; simp)
  obtain ⟨h1, h2⟩ := C19_client_acknowledged_counts_confirmations q hq acts s h
  refine ⟨hsub, ?_⟩
  rw [h1, ← sentOkOf_length]
  exact h2.length_le_of_subset hsub

/-- **C19 (client side of the per-output balance).** taken from the queue = acknowledged + handed back + still held. -/
theorem C19_client_balance (q : List Nat) (hq : q.Nodup) (acts : List Client.Act) (s : Client.St)
    (h : Client.run (Client.init q) acts = some s) :
    s.taken.length = Client.acknowledgedN s.hist + s.handed.length + (Client.inflight s).length := by
  have hc := (C02.run_inv h (C02.init_inv q hq)).cons
  obtain ⟨h1, _⟩ := C19_client_acknowledged_counts_confirmations q hq acts s h
  have hperm : s.taken.Perm (s.confirmed ++ s.handed ++ Client.inflight s) := List.perm_iff_count.mpr hc
  rw [h1, hperm.length_eq]; simp only [List.length_append]

example : (Client.run (Client.init [1, 2, 3]) C02.demoActs).map (fun s => (Client.forwardedN s.hist, Client.acknowledgedN s.hist)) =
    some (3, 1) := by
  simp [C02.demoActs, Client.run, Client.step, Client.init, Client.newLeft, Client.dedupSorted, Client.ackCap, List.mergeSort,
    List.MergeSort.Internal.splitInTwo, Client.forwardedN, Client.acknowledgedN, Client.consumedOf]

/-! ### labelled counters: attributed to the label values of the records that caused them

`SelectMetricKeySet` finds a record's counter set by the length-prefixed merge of its metric key values
(`Route.mergeKey`, after the repair of F-2) and creates it, with these values as its `key_*` labels, when it is new
(`C06.route`).  The labels of the counter set a record increments are therefore the record's own values, and the
counter exported under label values `t` has been incremented once by every record carrying `t` and by no other. -/

/-- **C19 (label attribution).** For every sequence of records and every counter sets created before: the number of
increments that went to a counter set labelled `t` is the number of records whose metric key values are `t`. -/
theorem C19_labelled_counter_counts_its_records (recs : List (List Bytes)) (m : C06.PMap) (h : m.WF) (t : List Bytes) :
    ((C06.routeAll Route.mergeKey m recs).2).count t = recs.count t := by
  rw [C06.C06_routes_own recs m h]

end C19
