import SlogModel.Model.Route
import SlogModel.Gen.Facts

/-!
  C06 — Routing, queueing and tagging follow exactly the record's own key fields.

  * `C06_merge_injective` : the lookup key of the pipeline map / metric-key map determines the tuple
  * `C06_routes_own`      : for every arrival order, the pipeline a record reaches was created from
                            exactly that record's key tuple (so its id and tag are the record's own)
  * `C06_id_roundtrip`    : `splitId (joinId ks) = ks` — queued chunks found at startup are
                            re-attached to the key set that produced them
  * `C06_id_injective`, `C06_id_nonempty`, `C06_dir_injective`
  * `C06_queue_dir_recognised_for_every_mode` : an entry of the queue root is taken for a queue by its file type
                            (`isDirMode`), whatever its permission bits
  * `legacy_*`            : the code before the repairs violates merging, routing, the id properties and the
                            directory test (kept as witnesses; none for `C06_dir_injective`)
-/

namespace C06
open Route

theorem uvarint_lt {n : Nat} (h : n < 128) : uvarint n = [n] := by
  rw [uvarint, if_pos h]

theorem uvarint_ge {n : Nat} (h : ¬ n < 128) : uvarint n = (n % 128 + 128) :: uvarint (n / 128) := by
  rw [uvarint, if_neg h]

/-- Go `binary.Uvarint`: the value and what follows it -/
def readUvarint : Bytes → Nat × Bytes
  | [] => (0, [])
  | b :: r => if b < 128 then (b, r) else ((b - 128) + 128 * (readUvarint r).1, (readUvarint r).2)

theorem readUvarint_uvarint (n : Nat) (x : Bytes) : readUvarint (uvarint n ++ x) = (n, x) := by
  fun_induction uvarint n with
  | case1 n h => simp [readUvarint, h]
  | case2 n h ih =>
    have : ¬ n % 128 + 128 < 128 := by omega
    simp only [List.cons_append, readUvarint, this, if_false, ih, Prod.mk.injEq, and_true]
    omega

theorem uvarint_prefix_free (n m : Nat) (x y : Bytes) (h : uvarint n ++ x = uvarint m ++ y) : n = m ∧ x = y := by
  have := congrArg readUvarint h
  rwa [readUvarint_uvarint, readUvarint_uvarint, Prod.mk.injEq] at this

theorem uvarint_ne_nil (n : Nat) : uvarint n ≠ [] := by
  by_cases h : n < 128
  · rw [uvarint_lt h]
    exact List.cons_ne_nil _ _
  · rw [uvarint_ge h]
    exact List.cons_ne_nil _ _

theorem mergeKey_eq_nil {a : List Bytes} (h : mergeKey a = []) : a = [] := by
  cases a with
  | nil => rfl
  | cons k ks =>
    simp only [mergeKey, List.append_assoc] at h
    exact absurd (List.append_eq_nil_iff.mp h).1 (uvarint_ne_nil _)

/-- **C06 (no merging).** Two key tuples with the same lookup key are the same tuple — for any byte
strings, any arities, empty values and shifted boundaries included. -/
theorem C06_merge_injective : ∀ (a b : List Bytes), mergeKey a = mergeKey b → a = b := by
  intro a
  induction a with
  | nil => intro b h; exact (mergeKey_eq_nil h.symm).symm
  | cons k ks ih =>
    intro b h
    cases b with
    | nil => exact mergeKey_eq_nil h
    | cons k' ks' =>
      -- equal length prefixes, hence values of equal length, hence equal values and equal rests
      simp only [mergeKey, List.append_assoc] at h
      obtain ⟨hl, h2⟩ := uvarint_prefix_free _ _ _ _ h
      obtain ⟨h3, h4⟩ := List.append_inj h2 hl
      rw [h3, ih ks' h4]

/-- pipelines created so far: lookup key ↦ the key tuple the pipeline was created from
(`newPipeline` derives id, tag, queue directory and metric labels from that tuple) -/
abbrev PMap := List (Bytes × List Bytes)

/-- `LocalCachedMap.GetOrCreate` + `GlobalCachedMap.getOrCreate`: returns the creating tuple of the
pipeline that receives a record with key tuple `keys` -/
def route (merge : List Bytes → Bytes) (m : PMap) (keys : List Bytes) : PMap × List Bytes :=
  match m.lookup (merge keys) with
  | some creator => (m, creator)
  | none => ((merge keys, keys) :: m, keys)

def routeAll (merge : List Bytes → Bytes) : PMap → List (List Bytes) → PMap × List (List Bytes)
  | m, [] => (m, [])
  | m, k :: ks =>
    let (m1, c) := route merge m k
    let (m2, cs) := routeAll merge m1 ks
    (m2, c :: cs)

def PMap.WF (m : PMap) : Prop := ∀ p ∈ m, p.1 = mergeKey p.2

theorem route_own (m : PMap) (h : m.WF) (keys : List Bytes) :
    (route mergeKey m keys).2 = keys ∧ (route mergeKey m keys).1.WF := by
  unfold route
  split
  · rename_i creator hl
    have hm : (mergeKey keys, creator) ∈ m := by
      have := List.lookup_eq_some_iff.mp hl
      obtain ⟨l1, l2, h1, _⟩ := this
      rw [h1]; simp
    have := h _ hm
    exact ⟨(C06_merge_injective _ _ this).symm, h⟩
  · exact ⟨rfl, List.forall_mem_cons.mpr ⟨rfl, h⟩⟩

/-- **C06 (own pipeline, any arrival order).** Whatever records arrive in whatever order, each is
processed by a pipeline created from exactly its own key tuple: id, tag, queue directory and metric
labels (all functions of the creating tuple) are the record's own. -/
theorem C06_routes_own (recs : List (List Bytes)) (m : PMap) (h : m.WF) :
    (routeAll mergeKey m recs).2 = recs := by
  induction recs generalizing m with
  | nil => rfl
  | cons k ks ih =>
    obtain ⟨h1, h2⟩ := route_own m h k
    simp only [routeAll]
    rw [ih _ h2, h1]

theorem splitAux_other (c : Nat) (r cur : Bytes) (acc : List Bytes) (h1 : c ≠ 92) (h2 : c ≠ 44) :
    splitAux (c :: r) cur acc = splitAux r (c :: cur) acc := by
  rw [splitAux.eq_def]; simp [h1, h2]

theorem splitAux_comma (r cur : Bytes) (acc : List Bytes) :
    splitAux (44 :: r) cur acc = splitAux r [] (cur.reverse :: acc) := by
  rw [splitAux.eq_def]; simp

theorem splitAux_escKey (k rest cur : Bytes) (acc : List Bytes) :
    splitAux (escKey k ++ rest) cur acc = splitAux rest (k.reverse ++ cur) acc := by
  induction k generalizing cur with
  | nil => simp [escKey]
  | cons c r ih =>
    by_cases h : c = 44 ∨ c = 92
    · simp only [escKey, h, if_true, List.cons_append, splitAux]
      rw [ih]; simp
    · have h1 : c ≠ 92 := fun e => h (Or.inr e)
      have h2 : c ≠ 44 := fun e => h (Or.inl e)
      simp only [escKey, if_neg h, List.cons_append]
      rw [splitAux_other _ _ _ _ h1 h2, ih]; simp

theorem splitAux_joinEsc (ks : List Bytes) (hne : ks ≠ []) (acc : List Bytes) :
    splitAux (joinEsc ks) [] acc = acc.reverse ++ ks := by
  induction ks generalizing acc with
  | nil => exact absurd rfl hne
  | cons k ks ih =>
    cases ks with
    | nil =>
      have := splitAux_escKey k [] [] acc
      simp only [List.append_nil] at this
      simp [joinEsc, this, splitAux]
    | cons k2 ks2 =>
      simp only [joinEsc]
      rw [splitAux_escKey]
      have e : splitAux (44 :: joinEsc (k2 :: ks2)) (k.reverse ++ []) acc =
          splitAux (joinEsc (k2 :: ks2)) [] (k :: acc) := by rw [splitAux_comma]; simp
      rw [e, ih (by simp)]
      simp

/-- an escaped key does not begin with the empty-tuple token `\e`: after a backslash comes a comma or a backslash -/
theorem escKey_ne_empty_token (k rest : Bytes) (h : escKey k ++ rest = [92, 101]) : rest = [92, 101] := by
  cases k with
  | nil => exact h
  | cons c r =>
    by_cases hc : c = 44 ∨ c = 92
    · simp only [escKey, hc, if_true, List.cons_append, List.cons.injEq] at h
      omega
    · simp only [escKey, hc, if_false, List.cons_append, List.cons.injEq] at h
      omega

theorem joinEsc_ne_empty_token (ks : List Bytes) : joinEsc ks ≠ [92, 101] := by
  intro he
  match ks with
  | [] => simp [joinEsc] at he
  | [k] => simpa using escKey_ne_empty_token k [] (by simpa [joinEsc] using he)
  | k :: k2 :: ks2 => simpa using escKey_ne_empty_token k _ he

/-- **C06 (recovery).** Splitting a pipeline id found on disk gives back exactly the key tuple that
produced it — for any byte strings, including empty values, commas and backslashes. -/
theorem C06_id_roundtrip (ks : List Bytes) (hne : ks ≠ []) : splitId (joinId ks) = ks := by
  unfold joinId
  by_cases h : ks = [[]]
  · simp [h, splitId]
  · simp only [h, if_false, splitId, joinEsc_ne_empty_token ks]
    simpa using splitAux_joinEsc ks hne []

/-- **C06 (no two tuples share a pipeline id / queue).** -/
theorem C06_id_injective (a b : List Bytes) (ha : a ≠ []) (hb : b ≠ [])
    (h : joinId a = joinId b) : a = b := by
  rw [← C06_id_roundtrip a ha, ← C06_id_roundtrip b hb, h]

/-- **C06 (every key set has a queue directory of its own).** The id is never empty, so the queue is
never the root directory itself (whose chunks the start-up scan does not see). -/
theorem C06_id_nonempty (ks : List Bytes) (hne : ks ≠ []) : joinId ks ≠ [] := by
  -- an empty id would split into `[[]]`, whose id is the escape token
  intro he
  have := C06_id_roundtrip ks hne
  rw [he] at this
  subst this
  exact absurd he (by decide)

/-- **C06 (directories).** Two ids with the same directory name have the same sanitised name and
the same MD5 tail; under the stated hypothesis on the hash (no collision of the 32-bit tail among
the ids in use) they are the same id. -/
theorem C06_dir_injective (tail : Bytes → Bytes) (htl : ∀ i, (tail i).length = 8)
    (hcf : ∀ i j, sanitize i = sanitize j → tail i = tail j → i = j)
    (a b : Bytes) (h : dirName a (tail a) = dirName b (tail b)) : a = b := by
  unfold dirName at h
  -- an empty id has no directory name and a non-empty one has: the two mixed cases are closed by `simp`
  by_cases ha : a = [] <;> by_cases hb : b = [] <;> simp [ha, hb] at h
  · rw [ha, hb]
  · -- both non-empty: the tails have length 8, so the sanitised names and the tails are equal
    have hlen : (sanitize a).length = (sanitize b).length := by
      have := congrArg List.length h
      simp [htl] at this; omega
    obtain ⟨h1, h2⟩ := List.append_inj h hlen
    exact hcf a b h1 (by simpa using h2)

/-! ### the code before the repairs (F-1, F-2, F-20): witnesses -/

theorem legacy_merge_collides :
    mergeKeyLegacy [b!"ab", b!"c"] = mergeKeyLegacy [b!"a", b!"bc"] := by rfl
theorem legacy_merge_collides_empty :
    mergeKeyLegacy [b!"x", b!""] = mergeKeyLegacy [b!"", b!"x"] := by rfl
theorem legacy_routes_foreign :
    (routeAll mergeKeyLegacy [] [[b!"ab", b!"c"], [b!"a", b!"bc"]]).2 = [[b!"ab", b!"c"], [b!"ab", b!"c"]] := by
  rfl
theorem legacy_id_collides : joinIdLegacy [b!"a,b", b!"c"] = joinIdLegacy [b!"a", b!"b,c"] := by rfl
theorem legacy_id_empty : joinIdLegacy [b!""] = [] := by rfl

/-! ### fact obligations (Tie B) -/

theorem C06_fact_merge_length_prefixed : Facts.route_merge_length_prefixed = some true := rfl
theorem C06_fact_metric_merge_length_prefixed : Facts.route_metric_merge_length_prefixed = some true := rfl
theorem C06_fact_id_join_split : Facts.route_id_uses_join_split = some true := rfl
theorem C06_fact_hash_length : Facts.route_dir_hash_length = some 8 := rfl

example : mergeKey [b!"ab", b!"c"] ≠ mergeKey [b!"a", b!"bc"] := by
  intro h; have := C06_merge_injective _ _ h; simp at this
example : splitId (joinId [b!"a,b", b!"", b!"c\\"]) = [b!"a,b", b!"", b!"c\\"] := by rfl
example : splitId (joinId [b!""]) = [b!""] := by rfl

/-! ### which entries of the queue root are queues (F-29) -/

/-- `stat.Mode&unix.S_IFMT == unix.S_IFDIR` -/
def isDirMode (mode : Nat) : Bool := mode &&& 0o170000 == 0o040000
/-- the test before the repair: `stat.Mode&unix.DT_DIR != 0` — `DT_DIR` = 4 is a directory-entry type, here it selects the
others-read permission bit -/
def legacyIsDir (mode : Nat) : Bool := mode &&& 4 != 0

theorem and_eq_zero_of_lt_two_pow {p m n : Nat} (h : p < 2 ^ n) (hm : m % 2 ^ n = 0) : p &&& m = 0 := by
  have h1 : p &&& m < 2 ^ n := by rw [Nat.and_comm]; exact Nat.and_lt_two_pow _ h
  have h2 : (p &&& m) % 2 ^ n = 0 := by rw [Nat.and_mod_two_pow, hm, Nat.and_zero]
  exact Nat.mod_eq_of_lt h1 ▸ h2

/-- **C06 (a queue directory is found again whatever its permission bits).** For all 4096 settings of the permission, set-id
and sticky bits a directory is recognised as one, and a regular file never is. -/
theorem C06_queue_dir_recognised_for_every_mode :
    ∀ p : Fin 4096, (isDirMode (0o040000 ||| p.val) && !isDirMode (0o100000 ||| p.val)) = true := by
  intro p
  -- permission, set-id and sticky bits lie below the file-type field `S_IFMT`
  simp [isDirMode, Nat.and_or_distrib_right, and_eq_zero_of_lt_two_pow (m := 0o170000) (n := 12) p.isLt rfl]

/-- the test before the repair skipped a directory created under umask 027 and took a world-readable file for a directory -/
theorem legacy_F29 : legacyIsDir 0o040750 = false ∧ legacyIsDir 0o100644 = true := ⟨rfl, rfl⟩

theorem C06_fact_dir_test : Facts.route_dir_test = ["stat.Mode&unix.S_IFMT != unix.S_IFDIR"] := rfl

end C06
