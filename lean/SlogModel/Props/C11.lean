import SlogModel.Model.Pack
import SlogModel.Lemmas.Msgpack
import SlogModel.Gen.Facts

/-!
  C11 — Chunks are complete, ordered, self-describing batches.

  * `C11_concat`   : for every interleaving of writes and flushes, the records of the emitted chunks,
                     in emission order, followed by what is still pending, are exactly the streams
                     written — nothing lost, duplicated or reordered at chunk boundaries or flushes
  * `C11_concat_flushed` : after a final flush nothing is pending
  * `C11_count`    : the record count announced by a chunk equals its contents
  * `C11_limits`   : no chunk exceeds the record limit; no chunk exceeds the byte limit unless it
                     holds a single record
  * `C11_indices`  : chunks are emitted in creation order (ordinals strictly increasing)
  * `C11_ids_increasing` : for non-decreasing clock readings the (timestamp, sequence) pairs printed
                     into the ids are strictly increasing, hence unique
  * `C11_id_format` : the id has fixed width, and different pairs give different ids
  * `C11_envelope_packed`, `C11_envelope_forward` : the Forward request decodes to
                     `[tag, entries | bin payload, {size, chunk, compressed?}]`
  * `C11_datadog_framing`
-/

namespace C11
open Pack MP

def pend (s : St) : List Bytes := match s.cur with | some k => k.recordsRev.reverse | none => []

def writesOf : List Op → List Bytes
  | [] => []
  | .write st :: r => st :: writesOf r
  | .flush :: r => writesOf r

theorem step_conserves (c : Cfg) (s : St) (op : Op) :
    ((step c s op).2.toList.map (·.records)).flatten ++ pend (step c s op).1 = pend s ++ writesOf [op] := by
  obtain ⟨_ | k, next⟩ := s <;> rcases op with st | _
  · simp [step, write, pend, writesOf, curWrite, newCur]      -- start
  · rfl                                                       -- idle flush
  · simp only [step, write]                                   -- append, or roll over
    split <;> simp [pend, writesOf, curWrite, newCur, finalize]
  · simp [step, flush, pend, writesOf, finalize]              -- flush

/-- **C11 (nothing lost, duplicated or reordered).** -/
theorem C11_concat (c : Cfg) (s : St) (ops : List Op) :
    ((run c s ops).2.map (·.records)).flatten ++ pend (run c s ops).1 = pend s ++ writesOf ops := by
  induction ops generalizing s with
  | nil => simp [run, writesOf]
  | cons op ops ih =>
    have h1 := step_conserves c s op
    have h2 := ih (step c s op).1
    simp only [run, List.map_append, List.flatten_append, List.append_assoc]
    rw [h2, ← List.append_assoc, h1]
    cases op <;> simp [writesOf]

theorem run_append (c : Cfg) (s : St) (a b : List Op) :
    run c s (a ++ b) = ((run c (run c s a).1 b).1, (run c s a).2 ++ (run c (run c s a).1 b).2) := by
  induction a generalizing s with
  | nil => simp [run]
  | cons x xs ih => simp [run, ih, List.append_assoc]

theorem writesOf_append (a b : List Op) : writesOf (a ++ b) = writesOf a ++ writesOf b := by
  induction a with
  | nil => rfl
  | cons o os ih => cases o <;> simp [writesOf, ih]

/-- **C11 (complete after a flush).** From the initial state, after a final flush, concatenating the
chunks in emission order reproduces the written sequence exactly. -/
theorem C11_concat_flushed (c : Cfg) (ops : List Op) :
    ((run c {} (ops ++ [.flush])).2.map (·.records)).flatten = writesOf ops := by
  have h := C11_concat c {} (ops ++ [.flush])
  have hp : pend (run c {} (ops ++ [.flush])).1 = [] := by
    rw [run_append]
    generalize (run c {} ops).1 = s1
    obtain ⟨cur, next⟩ := s1
    cases cur <;> simp [run, step, flush, pend]
  rw [hp, writesOf_append] at h
  simpa [pend, writesOf] using h

def plen (c : Cfg) (recs : List Bytes) : Nat :=
  if isDD c then 1 + (recs.map (fun r => r.length + 1)).sum else (recs.map List.length).sum

theorem plen_reverse (c : Cfg) (l : List Bytes) : plen c l.reverse = plen c l := by
  unfold plen; split <;> simp [List.sum_reverse]

theorem ddJoin_length : ∀ l : List Bytes, l ≠ [] → (ddJoin l).length + 1 = (l.map (fun r => r.length + 1)).sum
  | [], h => absurd rfl h
  | [r], _ => by simp [ddJoin]
  | r :: r2 :: rs, _ => by
    have := ddJoin_length (r2 :: rs) (by simp)
    simp only [ddJoin, List.length_append, List.length_cons, List.map_cons, List.sum_cons] at this ⊢
    omega

theorem payload_length (c : Cfg) (k : Chunk) (h : 1 ≤ k.records.length) :
    (payload c k).length = plen c k.records := by
  unfold payload plen
  split
  · have := ddJoin_length k.records (by intro e; rw [e] at h; cases h)
    simp; omega
  · simp [List.length_flatten]

theorem ite_nor {p q : Prop} [Decidable p] [Decidable q] :
    (if p then false else if q then false else true) = true ↔ ¬p ∧ ¬q := by
  by_cases p <;> by_cases q <;> simp [*]

theorem canAppend_iff (c : Cfg) (k : Cur) (len : Nat) : canAppend c k len = true ↔
    (c.maxRecords > 0 → k.numRecords < c.maxRecords) ∧
    (c.maxBytes > 0 → k.numBytes + len + (if isDD c then 1 else 0) ≤ c.maxBytes) := by
  rw [canAppend, ite_nor, not_and, not_and, Nat.not_le, Nat.not_lt]

structure CurOK (c : Cfg) (k : Cur) : Prop where
  count : k.numRecords = k.recordsRev.length
  pos : 1 ≤ k.numRecords
  bytes : k.numBytes = plen c k.recordsRev
  recLimit : c.maxRecords > 0 → k.numRecords ≤ c.maxRecords
  byteLimit : c.maxBytes > 0 → 2 ≤ k.numRecords → k.numBytes ≤ c.maxBytes

def StOK (c : Cfg) : St → Prop
  | ⟨some k, next⟩ => CurOK c k ∧ k.idx + 1 = next
  | ⟨none, _⟩ => True

/-- what `C11_count` and `C11_limits` say of an emitted chunk -/
structure ChunkOK (c : Cfg) (k : Chunk) : Prop where
  count : k.numRecords = k.records.length ∧ 1 ≤ k.records.length
  limits : (c.maxRecords > 0 → k.records.length ≤ c.maxRecords) ∧
    (c.maxBytes > 0 → k.records.length = 1 ∨ (payload c k).length ≤ c.maxBytes)

theorem finalize_ok (c : Cfg) (k : Cur) (h : CurOK c k) : ChunkOK c (finalize c k) := by
  have hc := h.count
  have hp := h.pos
  have hl : (finalize c k).records.length = k.numRecords := by simp [finalize, hc]
  refine ⟨⟨hl.symm, by omega⟩, fun hr => by have := h.recLimit hr; omega, fun hb => ?_⟩
  rw [payload_length c _ (by omega), hl]
  simp only [finalize, plen_reverse]
  by_cases h1 : k.numRecords = 1
  · exact .inl h1
  · exact .inr (by have := h.byteLimit hb (by omega); have := h.bytes; omega)

theorem curWrite_first_ok (c : Cfg) (idx : Nat) (st : Bytes) : CurOK c (curWrite c (newCur c idx) st) := by
  refine { count := by simp [curWrite, newCur], pos := by simp [curWrite], bytes := ?bytes, recLimit := ?recLimit,
           byteLimit := ?byteLimit } <;> simp only [curWrite, newCur, plen]
  case bytes => by_cases h : isDD c <;> simp [h]; omega
  case recLimit => intro h; omega
  case byteLimit => intro _ h; simp at h

theorem curWrite_more_ok (c : Cfg) (k : Cur) (st : Bytes) (hk : CurOK c k)
    (ha : canAppend c k st.length = true) : CurOK c (curWrite c k st) := by
  obtain ⟨hr, hb⟩ := (canAppend_iff c k st.length).mp ha
  refine { count := by simp [curWrite, hk.count], pos := by simp [curWrite], bytes := ?_,
           recLimit := fun hm => Nat.succ_le_of_lt (hr hm), byteLimit := fun hm _ => hb hm }
  simp only [curWrite, hk.bytes, plen]
  by_cases h : isDD c <;> simp [h] <;> omega

/-- the ordinal of the next chunk that will be emitted -/
def lb (s : St) : Nat := match s.cur with | some k => k.idx | none => s.next

theorem step_ok (c : Cfg) (s : St) (op : Op) (hs : StOK c s) :
    StOK c (step c s op).1 ∧ (∀ k ∈ (step c s op).2.toList, ChunkOK c k) ∧
    (step c s op).2.toList.map (·.idx) = List.range' (lb s) (step c s op).2.toList.length ∧
    lb (step c s op).1 = lb s + (step c s op).2.toList.length := by
  obtain ⟨_ | k, next⟩ := s <;> rcases op with st | _
  · -- start
    exact ⟨⟨curWrite_first_ok c next st, rfl⟩, by simp [step, write], rfl, rfl⟩
  · -- idle flush
    exact ⟨trivial, by simp [step, flush], rfl, rfl⟩
  · obtain ⟨hk, hi⟩ := hs
    simp only [step, write]
    split
    · -- append
      exact ⟨⟨curWrite_more_ok c k st hk ‹_›, hi⟩, by simp, rfl, rfl⟩
    · -- roll over
      exact ⟨⟨curWrite_first_ok c next st, rfl⟩, by simpa using finalize_ok c k hk, rfl, hi.symm⟩
  · -- flush
    exact ⟨trivial, by simpa [step, flush] using finalize_ok c k hs.1, rfl, hs.2.symm⟩

theorem run_ok (c : Cfg) (s : St) (ops : List Op) (hs : StOK c s) :
    StOK c (run c s ops).1 ∧ (∀ k ∈ (run c s ops).2, ChunkOK c k) ∧
    (run c s ops).2.map (·.idx) = List.range' (lb s) (run c s ops).2.length ∧
    lb (run c s ops).1 = lb s + (run c s ops).2.length := by
  induction ops generalizing s with
  | nil => simpa [run] using hs
  | cons op ops ih =>
    obtain ⟨h1, h2, h3, h4⟩ := step_ok c s op hs
    obtain ⟨i1, i2, i3, i4⟩ := ih _ h1
    simp only [run]
    refine ⟨i1, List.forall_mem_append.mpr ⟨h2, i2⟩, ?_, ?_⟩
    · rw [List.map_append, h3, i3, h4, List.length_append, List.range'_append_1]
    · rw [i4, h4, List.length_append, Nat.add_assoc]

/-- **C11 (count matches contents).** -/
theorem C11_count (c : Cfg) (ops : List Op) :
    ∀ k ∈ (run c {} ops).2, k.numRecords = k.records.length ∧ 1 ≤ k.records.length :=
  fun k hk => ((run_ok c {} ops trivial).2.1 k hk).count

/-- **C11 (limits).** No chunk holds more records than the record limit, and no chunk's payload is
larger than the byte limit unless the chunk holds a single record. -/
theorem C11_limits (c : Cfg) (ops : List Op) :
    ∀ k ∈ (run c {} ops).2,
      (c.maxRecords > 0 → k.records.length ≤ c.maxRecords) ∧
      (c.maxBytes > 0 → k.records.length = 1 ∨ (payload c k).length ≤ c.maxBytes) :=
  fun k hk => ((run_ok c {} ops trivial).2.1 k hk).limits

/-- **C11 (emission order = creation order).** -/
theorem C11_indices (c : Cfg) (ops : List Op) : ((run c {} ops).2.map (·.idx)).Pairwise (· < ·) :=
  (run_ok c {} ops trivial).2.2.1 ▸ List.pairwise_lt_range'

/-- order of the (timestamp, sequence) pairs printed into the ids -/
def pairLt (a b : Nat × Nat) : Prop := a.1 < b.1 ∨ (a.1 = b.1 ∧ a.2 < b.2)

theorem pairLt_trans {a b c : Nat × Nat} (h1 : pairLt a b) (h2 : pairLt b c) : pairLt a c := by
  unfold pairLt at *; omega

theorem next_spec (g : IdGen) (t : Nat) (h : g.epoch ≤ t) :
    (g.next t).2 = ((g.next t).1.epoch, (g.next t).1.seq) ∧ pairLt (g.epoch, g.seq) (g.next t).2 ∧
      (g.next t).1.epoch = t := by
  unfold IdGen.next pairLt
  split <;> simp <;> omega

theorem ids_chain (g : IdGen) (ts : List Nat) (h : (g.epoch :: ts).Pairwise (· ≤ ·)) :
    ((g.epoch, g.seq) :: IdGen.run g ts).Pairwise pairLt := by
  induction ts generalizing g with
  | nil => simp [IdGen.run]
  | cons t rest ih =>
    obtain ⟨h1, h2⟩ := List.pairwise_cons.mp h
    obtain ⟨e, hlt, he⟩ := next_spec g t (h1 t (by simp))
    have ih := ih (g.next t).1 (he.symm ▸ h2)
    rw [← e] at ih
    rw [IdGen.run, List.pairwise_cons]
    exact ⟨List.forall_mem_cons.mpr ⟨hlt, fun p hp => pairLt_trans hlt ((List.pairwise_cons.mp ih).1 p hp)⟩, ih⟩

/-- **C11 (unique, increasing ids).** When the clock readings do not decrease, the pairs printed
into successive chunk ids are strictly increasing (timestamp, then sequence): every id is unique
and ids order chunks by creation. -/
theorem C11_ids_increasing (g : IdGen) (ts : List Nat) (hge : ∀ t ∈ ts, g.epoch ≤ t)
    (hmono : ts.Pairwise (· ≤ ·)) : (IdGen.run g ts).Pairwise pairLt :=
  (List.pairwise_cons.mp (ids_chain g ts (List.pairwise_cons.mpr ⟨hge, hmono⟩))).2

theorem fixedDigits_length (w n : Nat) : (fixedDigits w n).length = w := by
  induction w generalizing n with
  | zero => rfl
  | succ w ih => simp [fixedDigits, ih]

theorem fixedDigits_inj (w a b : Nat) (h : fixedDigits w a = fixedDigits w b) : a % 10 ^ w = b % 10 ^ w := by
  induction w generalizing a b with
  | zero => simp [Nat.mod_one]
  | succ w ih =>
    obtain ⟨h1, h2⟩ := List.append_inj h (by simp [fixedDigits_length])
    have h2 : a % 10 = b % 10 := by simpa using h2
    rw [Nat.pow_succ, Nat.mul_comm, Nat.mod_mul, Nat.mod_mul, ih _ _ h1, h2]

/-- **C11 (fixed-width, injective id format).** With a timestamp below 10¹⁹ (every int64 nanosecond
reading) and a sequence below 10⁸ the id is `19 digits - 8 digits suffix`, and different
(timestamp, sequence) pairs give different ids. -/
theorem C11_id_format (p q : Nat × Nat) (sfx : Bytes)
    (hp : p.1 < 10 ^ 19 ∧ p.2 < 10 ^ 8) (hq : q.1 < 10 ^ 19 ∧ q.2 < 10 ^ 8) :
    (fmtId p sfx).length = 28 + sfx.length ∧ (fmtId p sfx = fmtId q sfx → p = q) := by
  unfold fmtId padDigits
  simp only [hp.1, hp.2, hq.1, hq.2, if_true]
  refine ⟨by simp [fixedDigits_length]; omega, fun h => ?_⟩
  obtain ⟨h1, h2⟩ := List.append_inj (List.append_cancel_right h) (by simp [fixedDigits_length])
  have e1 := fixedDigits_inj 19 _ _ (List.append_cancel_right h1)
  have e2 := fixedDigits_inj 8 _ _ h2
  rw [Nat.mod_eq_of_lt hp.1, Nat.mod_eq_of_lt hq.1] at e1
  rw [Nat.mod_eq_of_lt hp.2, Nat.mod_eq_of_lt hq.2] at e2
  exact Prod.ext e1 e2

theorem dec_libStr (d : Nat) (v : Bytes) (h : v.length < 4294967296) : Dec d (libStr v) (.str v) := by
  unfold libStr
  split
  · exact dec_fixstr d v ‹_›
  · split
    · exact dec_str8 d v
    · split
      · exact dec_str16 d v ‹_›
      · exact dec_str32 d v h

theorem dec_libBin (d : Nat) (v : Bytes) (h : v.length < 4294967296) : Dec d (libBin v) (.bin v) := by
  unfold libBin
  split
  · exact dec_bin8 d v
  · split
    · exact dec_bin16 d v ‹_›
    · exact dec_bin32 d v h

theorem dec_libArrHdr {d n : Nat} {bs : Bytes} {l : List Val} (hn : n < 4294967296) (hb : DecSeq d n bs l) :
    Dec (d + 1) (libArrHdr n ++ bs) (.arr l) := by
  unfold libArrHdr
  split
  · exact dec_fixarr ‹_› hb
  · split
    · exact dec_arr16 ‹_› hb
    · exact dec_arr32 hn hb

def expectedOption (n : Nat) (id : Bytes) (compressed : Bool) : Val :=
  .map ([(.str kSize, .uint n), (.str kChunk, .str id)] ++
        (if compressed then [(.str kCompressed, .str vGzip)] else []))

theorem dec_option (d n : Nat) (id : Bytes) (compressed : Bool)
    (hn : n < 9223372036854775808) (hid : id.length < 4294967296) :
    Dec (d + 1) (optionMap n id compressed) (expectedOption n id compressed) := by
  have size := dec_libStr d kSize (by decide)
  have chunk := dec_libStr d kChunk (by decide)
  cases compressed
  · have := dec_fixmap (n := 2) (by decide)
      (.cons size (dec_int64 d n hn) (.cons chunk (dec_libStr d id hid) (.nil d)))
    simpa [optionMap, expectedOption, libUint] using this
  · have := dec_fixmap (n := 3) (by decide)
      (.cons size (dec_int64 d n hn) (.cons chunk (dec_libStr d id hid)
        (.cons (dec_libStr d kCompressed (by decide)) (dec_libStr d vGzip (by decide)) (.nil d))))
    simpa [optionMap, expectedOption, libUint] using this

-- `d` is free: entries that are events of C10 need `d ≥ 3`
theorem envelope_dec {d : Nat} (c : Cfg) (n : Nat) (id body : Bytes) {v : Val}
    (ht : c.tag.length < 4294967296) (hid : id.length < 4294967296) (hn : n < 9223372036854775808)
    (hmid : Dec (d + 1) (if c.mode == .forward then libArrHdr n ++ body else libBin body) v) :
    Dec (d + 2) (envelope c n id body) (.arr [.str c.tag, v, expectedOption n id (c.mode == .compressed)]) := by
  have := dec_fixarr (n := 3) (by decide) (.cons (dec_libStr (d + 1) c.tag ht) (.cons hmid
    (.cons (dec_option d n id (c.mode == .compressed) hn hid) (.nil (d + 1)))))
  simpa [envelope] using this

/-- **C11 (PackedForward / CompressedPackedForward request).** The chunk decodes to
`[tag, bin body, {size: n, chunk: id (, compressed: "gzip")}]` with nothing left over; `body` is the
stored payload (gzip of the records in compressed mode). -/
theorem C11_envelope_packed (c : Cfg) (n : Nat) (id body : Bytes) (hm : c.mode = .packed ∨ c.mode = .compressed)
    (ht : c.tag.length < 4294967296) (hb : body.length < 4294967296) (hid : id.length < 4294967296)
    (hn : n < 9223372036854775808) :
    decode 2 (envelope c n id body) =
      some (.arr [.str c.tag, .bin body, expectedOption n id (c.mode == .compressed)], []) :=
  (envelope_dec (d := 0) c n id body ht hid hn
    (by rcases hm with h | h <;> simpa [h] using dec_libBin 1 body hb)).closed

/-- **C11 (Forward request).** When the body is a sequence of `n` well-formed entries (C10), the
chunk decodes to `[tag, [entry₁ … entryₙ], {size: n, chunk: id}]` with nothing left over. -/
theorem C11_envelope_forward (c : Cfg) (n : Nat) (id body : Bytes) (entries : List Val) (hm : c.mode = .forward)
    (ht : c.tag.length < 4294967296) (hid : id.length < 4294967296) (hn : n < 4294967296)
    (hentries : ∀ rest, decodeSeq 0 n (body ++ rest) = some (entries, rest)) :
    decode 2 (envelope c n id body) =
      some (.arr [.str c.tag, .arr entries, expectedOption n id false], []) := by
  have := (envelope_dec (d := 0) c n id body ht hid (by omega)
    (by simpa [hm] using dec_libArrHdr hn hentries)).closed
  rw [hm] at this
  exact this

/-- **C11 (Datadog framing).** The payload is `[` r₁ `,` … `,` rₙ `]`. -/
theorem C11_datadog_framing (c : Cfg) (k : Chunk) (h : c.mode = .datadog) :
    payload c k = 91 :: ddJoin k.records ++ [93] := by
  simp [payload, isDD, h]

/-! ### fact obligations (Tie B) -/

theorem C11_fact_can_append_found : Facts.gen_can_append_ff_found = true ∧ Facts.gen_can_append_dd_found = true := ⟨rfl, rfl⟩

/-- `CanAppendData` of both chunk kinds, translated from the source, is the model's `canAppend` for all limits and fill levels -/
theorem C11_gen_can_append (c : Cfg) (k : Cur) (len : Nat) :
    canAppend c k len =
      (if isDD c then Facts.gen_can_append_dd c.maxRecords k.numRecords c.maxBytes k.numBytes len
       else Facts.gen_can_append_ff c.maxRecords k.numRecords c.maxBytes k.numBytes len) := by
  rw [Bool.eq_iff_iff, canAppend_iff]
  cases isDD c <;> simp only [Facts.gen_can_append_dd, Facts.gen_can_append_ff, ite_nor, Bool.and_eq_true,
    decide_eq_true_eq, if_true, if_false, Bool.false_eq_true] <;> omega

theorem C11_fact_id_format : Facts.pack_id_format = ["%019d-%08d"] := rfl
theorem C11_fact_id_compare : Facts.pack_id_epoch_compare = ["nextTimestamp > generator.epochNano"] := rfl
theorem C11_fact_suffixes : Facts.pack_id_suffixes = [".ff", ".dd"] := rfl
theorem C11_fact_limits_args : Facts.pack_chunk_limit_args_in_order = some true := rfl
theorem C11_fact_dd_limits : Facts.pack_dd_limits = [1000, 5242880] := rfl
theorem C11_fact_ff_limits : Facts.pack_ff_limits = [0, 7340032] := rfl

/-! non-vacuity -/

def sampleCfg : Cfg := { mode := .packed, maxBytes := 10, maxRecords := 0, tag := b!"t" }
example : ((run sampleCfg {} [.write (b!"aaaa"), .write (b!"bbbb"), .flush, .write (b!"cccccccccccc"), .write (b!"d"),
    .flush]).2.map (·.records)) = [[b!"aaaa", b!"bbbb"], [b!"cccccccccccc"], [b!"d"]] := by rfl
example : (IdGen.run {} [5, 5, 5, 7, 7]) = [(5, 0), (5, 1), (5, 2), (7, 0), (7, 1)] := by rfl

end C11
