import SlogModel.Lemmas.XformEq
import SlogModel.Lemmas.GoM
import SlogModel.Model.Pipe

/-!
  C12 — Records are isolated from each other despite pooling and buffer reuse.

  In the models isolation is structural — every stage is a function of the record, the
  configuration and (for percentage sampling only) the sampler counters; what has to be proved is that
  nothing else is threaded through:

  * `runSteps_stateless` : a transform program without percentage sampling returns the state it was
      given and its result does not depend on that state (mutual induction over steps / switch cases).
  * `process_stateless`, `C12_isolated` : on such a pipeline the outcome of a line after any sequence
      of other lines equals its outcome on a fresh pipeline.
  * the serializer and the chunk maker have no cross-record state in their models (C10 / C11: the
      output is a function of the record; `C11_concat`: chunks reproduce the written sequence).
  The pooling mechanism itself (`base/logallocator.go`) is `Model/Pool.lean` with `Props/C12Pool.lean`.
  Tie: the stage models say nothing about pooling — the pipe harness does: every line is processed on a
  long-lived real pipeline (pooled records and buffers, released after each record) and again on a
  fresh pipeline; both must agree with each other and with `Pipe.process`; C10's and C11's harnesses add
  pooled records with identical layouts and live-chunk aliasing checks.
-/

open Xform
namespace C12

-- no percentage sampling anywhere in the program (the documented stateful exception)
mutual
def stepNS : Step → Prop
  | .iff _ thn => stepsNS thn
  | .switch cases => casesNS cases
  | .block steps => stepsNS steps
  | .drop _ rate _ => rate = 100
  | _ => True
def stepsNS : List Step → Prop
  | [] => True
  | s :: r => stepNS s ∧ stepsNS r
def casesNS : List (Xform.Match × List Step) → Prop
  | [] => True
  | (_, thn) :: r => stepsNS thn ∧ casesNS r
end

def withSt (st : XState) : GoM (Res × Rec × XState) → GoM (Res × Rec × XState)
  | .ok (a, b, _) => .ok (a, b, st)
  | .error e => .error e

theorem withSt_ite {st : XState} {c : Prop} [Decidable c] {a b a' b' : GoM (Res × Rec × XState)}
    (ha : a = withSt st a') (hb : b = withSt st b') : (if c then a else b) = withSt st (if c then a' else b') := by
  split
  · exact ha
  · exact hb

theorem withSt_bind {st : XState} {α : Type} (m : GoM α) {f g : α → GoM (Res × Rec × XState)}
    (h : ∀ a, f a = withSt st (g a)) : (m >>= f) = withSt st (m >>= g) := by
  cases m with
  | error e => rfl
  | ok a => exact h a

mutual
theorem runStep_stateless (st : XState) (r : Rec) : (s : Step) → stepNS s → runStep st r s = withSt st (runStep [] r s)
  | .addFields pairs, _ => withSt_bind _ fun _ => rfl
  | .delFields keys, _ => rfl
  | .mapValue key mapping dflt, _ => withSt_ite rfl rfl
  | .iff m thn, h => withSt_ite (runSteps_stateless st r thn h) rfl
  | .switch cases, h => runCases_stateless st r cases h
  | .block steps, h => runSteps_stateless st r steps h
  | .drop m rate id, h => by
    obtain rfl : rate = 100 := h
    refine withSt_ite rfl ?_
    rw [if_pos rfl, if_pos rfl]
    rfl
  | .extract e key dest, _ => withSt_ite rfl <| withSt_bind _ fun o =>
    match o with
    | none => rfl
    | some _ => withSt_ite rfl rfl
  | .truncate key maxLen suffix, _ => rfl
  | .unescape key, _ => withSt_ite rfl rfl
  | .redactEmail key, _ => withSt_ite rfl rfl
  | .parseTime key, _ => by
    simp only [runStep]
    split <;> rfl
  | .opaque _ _, _ => rfl

theorem runSteps_stateless (st : XState) (r : Rec) : (l : List Step) → stepsNS l → runSteps st r l = withSt st (runSteps [] r l)
  | [], _ => rfl
  | s :: rest, h => by
    rw [runSteps_cons, runSteps_cons, runStep_stateless st r s h.1]
    cases hs : runStep [] r s with
    | error e => rfl
    | ok p =>
      obtain ⟨res, r1, st1⟩ := p
      cases res with
      | drop => rfl
      | pass =>
        -- started from the empty state, the step hands the empty state on
        have hs0 := runStep_stateless [] r s h.1
        rw [hs] at hs0
        cases hs0
        exact runSteps_stateless st r1 rest h.2

theorem runCases_stateless (st : XState) (r : Rec) : (l : List (Xform.Match × List Step)) → casesNS l →
    runCases st r l = withSt st (runCases [] r l)
  | [], _ => rfl
  | (_, thn) :: rest, h => withSt_ite (runSteps_stateless st r thn h.1) (runCases_stateless st r rest h.2)
end

open Pipe

theorem process_stateless (c : Cfg) (st : Xform.XState) (line : Bytes) (sec : Int) (nsec : Nat) (hns : stepsNS c.steps) :
    process c st line sec nsec = (match process c [] line sec nsec with | .ok (o, _) => .ok (o, st) | .error e => .error e) := by
  unfold process
  cases Parse.parseGo c.parse line with
  | error e => rfl
  | ok o =>
    cases o with
    | drop reason => rfl
    | pass r ov =>
      simp only [GoM.ok_bind]
      rw [runSteps_stateless st _ c.steps hns]
      cases hs : Xform.runSteps [] (toX c.nFields c.off r sec nsec) c.steps with
      | error e => rfl
      | ok p =>
        obtain ⟨res, r', st'⟩ := p
        simp only [withSt]
        cases res <;> rfl

theorem processAll_cons_ok {c : Cfg} {st : Xform.XState} {l : Bytes} {ls : List Bytes} {outs : List Out}
    (h : processAll c st (l :: ls) = .ok outs) :
    ∃ o st' rest, process c st l 0 0 = .ok (o, st') ∧ processAll c st' ls = .ok rest ∧ outs = o :: rest := by
  rw [processAll] at h
  obtain ⟨⟨o, st'⟩, hp, h⟩ := GoM.bind_eq_ok_iff.mp h
  obtain ⟨rest, hr, h⟩ := GoM.bind_eq_ok_iff.mp h
  cases h
  exact ⟨o, st', rest, hp, hr, rfl⟩

/-- **C12 (records are isolated).** On a pipeline without percentage sampling the output of a record
is the same after any sequence of other records as on a fresh pipeline. -/
theorem C12_isolated (c : Cfg) (hns : stepsNS c.steps) (pre : List Bytes) (line : Bytes) (st : Xform.XState)
    (outs : List Out) (h : processAll c st (pre ++ [line]) = .ok outs) :
    ∃ o st', process c [] line 0 0 = .ok (o, st') ∧ outs.getLast? = some o := by
  induction pre generalizing st outs with
  | nil =>
    obtain ⟨o, st', rest, hp, hr, rfl⟩ := processAll_cons_ok h
    cases hr
    -- whatever state the earlier lines left, the outcome is that of the empty one
    rw [process_stateless c st line 0 0 hns] at hp
    cases hq : process c [] line 0 0 with
    | error e =>
      rw [hq] at hp
      cases hp
    | ok q =>
      rw [hq] at hp
      cases hp
      exact ⟨_, _, rfl, rfl⟩
  | cons l ls ih =>
    obtain ⟨o1, st1, rest, _, hr, rfl⟩ := processAll_cons_ok h
    obtain ⟨o, st', h1, h2⟩ := ih st1 rest hr
    refine ⟨o, st', h1, ?_⟩
    cases rest with
    | nil => simp at h2
    | cons x xs => simpa using h2

end C12
