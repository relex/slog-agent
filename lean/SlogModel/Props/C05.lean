import SlogModel.Lemmas.E2E
import SlogModel.Gen.Facts

/-!
  C05 — Arrival order is preserved per connection and key set.

  On the same chunk-level system as C01 (`E2E.step`; records and chunks are numbered in arrival /
  creation order; a pipeline receives the records of its key set in the order the connection handlers
  hand them over — C08 keeps the order within a connection, C06 routes by key set):

  * `C05_chunks_hold_arrival_order` : the records of the chunks, concatenated in chunk-id order and
      followed by the chunk being filled, are exactly the records read, in arrival order.
  * `C05_chunk_order_per_connection` : on every upstream connection chunks are transmitted in
      strictly increasing id (= creation) order.
  * `C05_first_delivery_in_order` : whenever a chunk is transmitted for the first time, every chunk
      transmitted before it is older — so first deliveries of records appear in arrival order, whatever
      was spilled, recovered or retransmitted in between.
  * `C05_never_skips_older` : a queued or saved chunk that was never transmitted is newer than
      everything ever transmitted.
  * `C05_first_delivery_spelled_out` : `C05_first_delivery_in_order` on a split of the log.
  The path from the connection handler to the pipeline channel is `Props/C05Path.lean`.
-/

open E2E C01

namespace C05

/-- **C05 (chunks hold the records in arrival order).** -/
theorem C05_chunks_hold_arrival_order (acts : List Act) (s : St) (h : run {} acts = some s) :
    s.content.flatMap (·.2) ++ s.cur = List.range s.nextRec ∧ s.content.map (·.1) = List.range s.nextChunk :=
  ⟨(E2E.reach h).1.recs, (E2E.reach h).1.ids⟩

/-- **C05 (creation order on every upstream connection).** -/
theorem C05_chunk_order_per_connection (acts : List Act) (s : St) (h : run {} acts = some s) (k : Nat) :
    (onConn k s.sentLog).Pairwise (· < ·) :=
  (E2E.reach h).2.perConn k

/-- **C05 (first deliveries in order).** -/
theorem C05_first_delivery_in_order (acts : List Act) (s : St) (h : run {} acts = some s) :
    firstOK [] s.sentLog :=
  (E2E.reach h).2.first

/-- **C05 (an older undelivered chunk is never skipped).** -/
theorem C05_never_skips_older (acts : List Act) (s : St) (h : run {} acts = some s) :
    (s.inflight ++ s.queue).Pairwise (· < ·) ∧
    ∀ q ∈ s.queue ++ s.disk, q ∉ ids s.sentLog → ∀ p ∈ s.sentLog, p.2 < q :=
  ⟨(E2E.reach h).2.sorted, fun q hq hns p hp =>
    (((E2E.reach h).2.fresh q hq).resolve_left hns) p.2 (List.mem_map_of_mem hp)⟩

/-- every transmission that is the first of its chunk comes after only older chunks -/
theorem C05_first_delivery_spelled_out (acts : List Act) (s : St) (h : run {} acts = some s)
    (pre post : List (Nat × Nat)) (k c : Nat) (hs : s.sentLog = pre ++ (k, c) :: post) (hfirst : c ∉ ids pre) :
    ∀ c' ∈ ids pre, c' < c := by
  -- the head of the second part of the log, with the chunks of `pre` as `seen`
  have hc : firstOK _ ((k, c) :: post) := ((firstOK_append pre [] _).mp (hs ▸ C05_first_delivery_in_order acts s h)).2
  simp only [firstOK, List.append_nil, List.mem_reverse] at hc
  exact hc.1.resolve_left hfirst

/-! ### fact obligations (Tie B): the mechanisms behind the actions of `E2E.step` -/

/-- `connFail` / `stop`: leftovers are merged in id order (sort + de-duplication) -/
theorem C05_fact_leftovers_sorted : Facts.client_leftover_sort = ["return chunks[i].ID < chunks[j].ID", "if c.ID == lastChunkID"] ∧
    Facts.client_leftover_sources = ["fromPrevious...", "fromAckerChannel...", "fromAckerPending...", "*session.lastChunk"] := ⟨rfl, rfl⟩
/-- `take` after a reconnect: the recovery stage runs to its end before any new input is received, in separate loops -/
theorem C05_fact_session_stages : Facts.order_session_stages = ["session.runAcknowledger", "session.resendLeftovers", "session.processInput"] ∧
    Facts.order_input_sources = ["resendLeftovers:leftovers", "processInput:input"] := ⟨rfl, rfl⟩
/-- `restart`: the whole queue directory is read at once and sorted once; recovery precedes the feeder -/
theorem C05_fact_scan_sorted : Facts.order_scan_sorted = ["Readdirnames(0)", "sort.Strings(fnames)", "range fnames"] ∧
    Facts.buffer_start_calls = ["buf.recoverExistingChunks()", "go buf.feeder.Run()"] := ⟨rfl, rfl⟩
/-- chunk ids increase with creation (the id format and epoch rule of C11) -/
theorem C05_fact_ids : Facts.pack_id_format = ["%019d-%08d"] ∧ Facts.pack_id_epoch_compare = ["nextTimestamp > generator.epochNano"] := ⟨rfl, rfl⟩

end C05
