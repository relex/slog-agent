import SlogModel.Lemmas.Disk
import SlogModel.Lemmas.Buffer
import SlogModel.Gen.Facts

/-!
  C04 — Spilled chunks survive I/O faults and crashes intact or not at all.

  * `C04_write_all_or_nothing` : `WriteFileAt` under any file-size / space limit either leaves the
      complete chunk under its final name and reports success, or reports failure and leaves the final
      name untouched; the temporary name is gone in both cases; no other file is touched.
      `C04_write_result` : success is reported exactly when the data fits.
  * `C04_crash_no_torn_final` : a kill at any step of `WriteFileAt`, or inside its write at any byte
      offset, leaves the final name untouched or complete.
  * `C04_no_torn_chunk_forwarded` : for every list of chunks, every position of the affected chunk,
      every fault (limit at any offset, kill at any step, kill inside the write at any offset): every
      chunk the next start loads and forwards from the directory is byte-identical to a chunk that was
      produced (or was in the directory before); a zero-length file is never forwarded.
  * `C04_saved_implies_complete` : `UnloadChunk` marks a chunk saved and releases its memory only
      when the write reported success (`Buffer.unload`, whose write is the update of the buffer model's own `disk`).
  * `C04_bad_file_isolated` : a feeder step that meets a missing, unreadable or zero-length file
      drops exactly that entry and leaves the rest of the queue as it was.
  * `C04_temp_never_matches` : the temporary name of any chunk id is rejected by both outputs' matchers.
  * `legacy_*` : the code before the repair (F-4) reports a short write as success, and `load` forwards the
      short file (two concrete witnesses; none for the crash theorem).
  Out of scope: power loss (unsynced page cache); `ReadFileAt` returning fewer bytes than the file
  holds (a single `read` on a regular file is assumed to return the whole file).
-/

open Disk

namespace C04

/-- **C04 (all or nothing).** -/
theorem C04_write_all_or_nothing (fs : FS) (id : Nat) (data : Bytes) (limit : Option Nat) :
    ((writeFile fs id data limit).2 = true → fget (writeFile fs id data limit).1 (.final id) = some (.file data)) ∧
    ((writeFile fs id data limit).2 = false → fget (writeFile fs id data limit).1 (.final id) = fget fs (.final id)) ∧
    fget (writeFile fs id data limit).1 (.temp id) = none ∧
    ∀ n, n ≠ .final id → n ≠ .temp id → fget (writeFile fs id data limit).1 n = fget fs n :=
  writeFile_spec fs id data limit

/-- success is reported exactly when the data fits -/
theorem C04_write_result (fs : FS) (id : Nat) (data : Bytes) (limit : Option Nat) :
    (writeFile fs id data limit).2 = fits limit data.length := by
  unfold writeFile; simp only; split <;> simp_all

/-- **C04 (crash).** -/
theorem C04_crash_no_torn_final (fs : FS) (id : Nat) (data : Bytes) (k : Kill) :
    (fget (crashFile fs id data k) (.final id) = fget fs (.final id) ∨
     fget (crashFile fs id data k) (.final id) = some (.file data)) ∧
    ∀ n, n ≠ .final id → n ≠ .temp id → fget (crashFile fs id data k) n = fget fs n :=
  crashFile_safe fs id data k

/-- **C04 (no torn chunk is forwarded).** -/
theorem C04_no_torn_chunk_forwarded (fs0 : FS) (h0 : (Names fs0).Nodup) (chunks : List (Nat × Bytes)) (pos : Nat)
    (f : Fault) (i : Nat) (d : Bytes) (e : Nat × Option Bytes)
    (he : e ∈ scan (victim fs0 chunks pos f)) (hl : load e = .forward i d) :
    (fget fs0 (.final i) = some (.file d) ∨ (i, d) ∈ chunks) ∧ d ≠ [] := by
  revert hl
  fun_cases load e <;> intro hl <;> cases hl
  next hne =>
    refine ⟨?_, fun e => hne (e ▸ rfl)⟩
    have hfin := victim_finals chunks [] fs0 fs0 pos f ⟨h0, fun _ _ hx => .inl hx⟩
    rcases hfin.2 i _ (Assoc.get_of_mem hfin.1 (mem_scan he)) with h1 | ⟨dd, h1, h2⟩
    · exact .inl h1
    · cases h2; exact .inr (by simpa using h1)

/-- **C04 (saved implies complete).** In the buffer model a chunk becomes `saved` with its memory
released only through a successful write of its whole data under its final name. -/
theorem C04_saved_implies_complete (s : Buffer.St) (e : Buffer.Entry) (d : Bytes)
    (he : e.saved = false) (hd : e.data = some d) (hok : (Buffer.unload s e).2.2 = true) :
    Buffer.lookup (Buffer.unload s e).1.disk e.id = some d ∧ (Buffer.unload s e).2.1.saved = true ∧
      (Buffer.unload s e).2.1.data = none := by
  rcases C03.unload_spec s e with h | ⟨d', _, hd', _, h⟩
  · rw [h] at hok
    cases he.symm.trans hok
  · cases hd.symm.trans hd'
    rw [h]
    -- `Buffer.lookup` of the `Assoc.put` that `unload` writes
    exact ⟨(Assoc.get_put s.disk e.id e.id d).trans (if_pos rfl), rfl, rfl⟩

/-- **C04 (a bad file is isolated).** -/
theorem C04_bad_file_isolated (s s' : Buffer.St) (e : Buffer.Entry) (rest : List Buffer.Entry)
    (h : Buffer.feederStep s = some s') (hh : s.hand = none) (hq : s.inQ = e :: rest) :
    s'.inQ = rest ∧ s'.outW = s.outW ∧ s'.held = s.held ∧
      (s'.hand = none → s'.droppedG = s.droppedG ++ [e.id]) := by
  cases C03.feederStep_shape h with
  | push h1 => rw [hh] at h1; cases h1
  | load _ h2 => rw [hq] at h2; cases h2; exact ⟨rfl, rfl, rfl, nofun⟩
  | qdrop _ h2 => rw [hq] at h2; cases h2; exact ⟨rfl, rfl, rfl, fun _ => rfl⟩

def tmpSuffix : Bytes := (b!".tmp")

def matchesSuffix (name suffix : Bytes) : Bool := suffix.isSuffixOf name

/-- **C04 (temporary names are never recovered).** -/
theorem C04_temp_never_matches (id : Bytes) :
    matchesSuffix (id ++ tmpSuffix) (b!".ff") = false ∧ matchesSuffix (id ++ tmpSuffix) (b!".dd") = false := by
  -- a suffix ends in the last byte of the name, which is `p`
  have key : ∀ (suf : Bytes) (c : Nat), c ≠ 112 → (suf ++ [c]).isSuffixOf (id ++ tmpSuffix) = false := fun suf c hc =>
    Bool.eq_false_iff.mpr fun h => by
      obtain ⟨t, ht⟩ := List.isSuffixOf_iff_suffix.mp h
      have : (t ++ (suf ++ [c])).getLast? = (id ++ tmpSuffix).getLast? := congrArg _ ht
      simp [tmpSuffix] at this
      exact hc this
  exact ⟨key [46, 102] 102 (by decide), key [46, 100] 100 (by decide)⟩

/-! ### the code before the repair (F-4): witnesses -/

theorem legacy_short_write_reported_as_success :
    writeFileLegacy [] 1 [10, 20, 30] (some 2) = ([(.final 1, .file [10, 20])], true) := rfl

theorem legacy_torn_chunk_forwarded :
    load (1, some [10, 20]) = .forward 1 [10, 20] ∧ ((1 : Nat), ([10, 20] : Bytes)) ∉ [((1 : Nat), ([10, 20, 30] : Bytes))] := by decide

example : scan (victim [] [(1, [1, 2, 3]), (2, [4, 5]), (3, [6])] 1 (.limitKill 1)) = [(1, some [1, 2, 3])] := rfl
example : victim [] [(1, [1, 2, 3]), (2, [4, 5]), (3, [6])] 1 (.limit 1) =
    [(.final 1, .file [1, 2, 3]), (.final 3, .file [6])] := rfl

/-! ### fact obligations (Tie B) -/

/-- the system calls of `WriteFileAt`, in source order, and the use of the byte count in the write loop -/
theorem C04_fact_write_steps : Facts.disk_write_steps =
    ["Openat(tmpname)", "writeAll", "Close", "Renameat(tmpname->filename)", "Unlinkat(tmpname) on error"] := rfl
theorem C04_fact_write_loop : Facts.disk_write_loop = ["for len(data) > 0", "n, werr := unix.Write(fd, data)", "data = data[n:]"] := rfl
theorem C04_fact_temp_suffix : Facts.disk_temp_suffix = [".tmp"] := rfl
/-- the temporary name is the final name plus the suffix (`Name.temp n` in the model): writers of different chunks never share it -/
theorem C04_fact_temp_name : Facts.disk_temp_name = ["filename + TempFileSuffix"] := rfl
/-- both matchers are suffix tests on the chunk id suffixes `.ff` / `.dd` -/
theorem C04_fact_matchers : Facts.disk_matchers = ["strings.HasSuffix(chunkID, chunkIDSuffix)", "strings.HasSuffix(chunkID, chunkIDSuffix)"] ∧
    Facts.pack_id_suffixes = [".ff", ".dd"] := ⟨rfl, rfl⟩
/-- `UnloadChunk` marks the chunk saved only after `WriteFileAt` returned nil -/
theorem C04_fact_saved_after_write : Facts.disk_unload_order = ["WriteFileAt", "return false on error", "Data = nil", "Saved = true"] := rfl
/-- zero-length chunks are treated as corrupt in `loadToOutput` -/
theorem C04_fact_zero_length : Facts.disk_zero_length_check = ["len(chunk.Data) == 0 -> OnChunkCorrupted"] := rfl

end C04
