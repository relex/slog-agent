import SlogModel.Lemmas.Client
import SlogModel.Lemmas.Buffer
import SlogModel.Gen.Facts

/-!
  C18 — Shutdown always completes in bounded time.

  Time is not part of the models; what the models decide is that shutdown can never wedge, and how many
  bounded waits it consists of:

  * `C18_client_can_always_finish` : from every state of the client transition system (any fault
      history, any interleaving so far) in which a stop was requested, the plan `finishPlan` — at most
      five actions: enter `collectLeftovers`, end the acknowledger (its pending ACK read fails — in the code:
      because the stop aborts the connection, `C18_fact_abort_on_stop` — or it is aborted while idle), merge the leftovers,
      hand them back and call `OnFinished` — is enabled step by step and ends with `finished`.  Each of these actions is a
      wait that the code bounds by a timeout or by the stop signal (facts below).
  * `C18_every_stop_run_ends_finished` : every run of the stop path's actions has at most six steps and can only stop finished.
  * `C18_buffer_destroy_enabled` : `destroy` is enabled in every state of the buffer model that is not
      yet destroyed, and leaves nothing queued (`C03.Drained`): every chunk is saved or counted dropped
      (C03_shutdown_accounted) — no chunk is left only in memory when the directory is usable.
  * facts: every blocking operation on the stop path selects on the stop signal or carries a deadline.
  Tie: the end-to-end harness measures every graceful stop of the real agent (upstream refusing,
  resetting, silent, late; idle, mid-chunk, pending ACKs) against the sum of the scaled timeouts;
  C02's harness reports a client that does not finish within 25 s of the stop request.
  PARTIAL: the time bound itself is measured, not proved.
-/

open Client
namespace C18

def finishPlan (s : St) : List Act :=
  (match s.sess with | some x => endSession x | none => []) ++ [Act.workerFinal]

theorem finishPlan_length (s : St) : (finishPlan s).length ≤ 5 := by
  unfold finishPlan
  cases s.sess with
  | none => simp
  | some x => have := endSession_length x; simp only [List.length_append, List.length_singleton]; omega

theorem finishPlan_works (s : St) (hf : s.finished = false) (hstop : s.stop = true) :
    ∃ s', run s (finishPlan s) = some s' ∧ s'.finished = true := by
  unfold finishPlan
  -- once no session is left the worker hands the leftovers back
  have last : ∀ t, t.sess = none → t.finished = false → t.stop = true →
      ∃ s', run t [Act.workerFinal] = some s' ∧ s'.finished = true :=
    fun t h1 h2 h3 => ⟨_, run_one (.workerFinal h1 h3 h2), rfl⟩
  cases hs : s.sess with
  | none => exact last s hs hf hstop
  | some x =>
    obtain ⟨t, h1, h2, _, _, u⟩ := endSession_run s x hs
    obtain ⟨s', h3, h4⟩ := last t h2 (u.finished.trans hf) (u.stop.trans hstop)
    exact ⟨s', run_trans h1 h3, h4⟩

/-- **C18 (the client can always finish).** -/
theorem C18_client_can_always_finish (s : St) (hf : s.finished = false) (hstop : s.stop = true) :
    ∃ acts s', acts.length ≤ 5 ∧ run s acts = some s' ∧ s'.finished = true := by
  obtain ⟨s', h1, h2⟩ := finishPlan_works s hf hstop
  exact ⟨finishPlan s, s', finishPlan_length s, h1, h2⟩

/-- **C18 (the buffer can always be destroyed, and then holds nothing in memory).** -/
theorem C18_buffer_destroy_enabled (s : Buffer.St) (h : s.destroyed = false) :
    ∃ s', Buffer.step s .destroy = some s' ∧ s'.inQ = [] ∧ s'.hand = none ∧ s'.outW = [] := by
  simp only [Buffer.step, h]
  obtain ⟨disk, c, dG, kG, hs, _⟩ := C03.saveAll_shape (s.inQ ++ Buffer.handEntry s.hand ++ s.outW)
    { s with inQ := [], hand := none, outW := [], destroyed := true }
  exact ⟨_, rfl, by rw [hs], by rw [hs], by rw [hs]⟩

/-! ### every way down the stop path is short and ends finished

`C18_client_can_always_finish` gives one plan.  Here: once the stop is requested, *every* run made of the stop path's actions —
the sender enters `collectLeftovers` (having seen the stop in a `select`, a send / ping error after the connection was
aborted, or a closed acknowledger), the pending ACK read fails, the acknowledger is aborted after the bounded wait (once: the
code escalates once per session) or sees its channel closed, the leftovers are merged, the worker hands them back — is at
most six steps long, and it cannot stop before `OnFinished`: in every state on the way one of these actions is enabled. -/

def stopActs : List Act :=
  [.beginCollect, .pushStop, .pushAckEnded, .ackErr, .escalate, .ackAbort, .ackChanClosed, .finishCollect, .workerFinal]

/-- the stop path escalates (`ackerAbort.Signal()` + `abortConn`) once per session -/
def stepS (s : St) (a : Act) : Option St :=
  match a, s.sess with
  | .escalate, some x => if x.abort then none else step s a
  | _, _ => step s a

def runS (s : St) : List Act → Option St
  | [] => some s
  | a :: as => match stepS s a with | some s' => runS s' as | none => none

/-- bounded waits left until `OnFinished` -/
def nu (s : St) : Nat :=
  (!s.finished).toNat + (match s.sess with
    | none => 0
    | some x => 1 + x.collecting.isNone.toNat + (!x.ackEnded).toNat + (!x.abort).toNat + x.ackCur.isSome.toNat)

theorem nu_le (s : St) : nu s ≤ 6 := by
  unfold nu
  have := Bool.toNat_le (!s.finished)
  cases s.sess with
  | none => simp only; omega
  | some x =>
    have := Bool.toNat_le x.collecting.isNone
    have := Bool.toNat_le (!x.ackEnded)
    have := Bool.toNat_le (!x.abort)
    have := Bool.toNat_le x.ackCur.isSome
    simp only; omega

theorem stepS_some {s s' : St} {a : Act} (h : stepS s a = some s') :
    step s a = some s' ∧ (a = .escalate → ∀ x, s.sess = some x → x.abort = false) := by
  revert h
  fun_cases stepS s a <;> intro h <;> simp_all

theorem stepS_dec {s s' : St} {a : Act} (ha : a ∈ stopActs) (h : stepS s a = some s') :
    nu s' < nu s ∧ s'.stop = s.stop := by
  obtain ⟨hst, hab⟩ := stepS_some h
  cases Step.of_step hst
  case collect x hs hcol _ => exact ⟨by simp [nu, hs, hcol, Sess.collect], rfl⟩
  case ackErr x cur hs hcur => exact ⟨by simp [nu, hs, hcur]; omega, rfl⟩
  case ackEnd x hs he _ _ => exact ⟨by simp [nu, hs, he], rfl⟩
  case escalate x prev hs _ => exact ⟨by simp [nu, hs, hab rfl x hs], rfl⟩
  case finishCollect x prev hs _ _ => exact ⟨by simp [nu, hs]; omega, rfl⟩
  case workerFinal hs _ hf => exact ⟨by simp [nu, hs, hf], rfl⟩
  all_goals simp [stopActs] at ha

theorem stop_progress (s : St) (hstop : s.stop = true) (hf : s.finished = false) : ∃ a ∈ stopActs, (stepS s a).isSome = true := by
  -- apart from the escalation, the stop path's steps are the client's
  have ok : ∀ {a s'}, Step s a s' → a ∈ stopActs → a ≠ .escalate → ∃ a ∈ stopActs, (stepS s a).isSome = true :=
    fun {a s'} h ha hne => ⟨a, ha, by
      have : stepS s a = step s a := by
        unfold stepS; split
        · exact absurd rfl hne
        · rfl
      rw [this, h.to_step]; rfl⟩
  cases hs : s.sess with
  | none => exact ok (.workerFinal hs hstop hf) (by simp [stopActs]) nofun
  | some x =>
    cases hcol : x.collecting with
    | none => exact ok (.collect hs hcol (.inr (.inr rfl))) (by simp [stopActs]) nofun
    | some prev =>
      cases he : x.ackEnded with
      | true => exact ok (.finishCollect hs hcol he) (by simp [stopActs]) nofun
      | false =>
        cases hcur : x.ackCur with
        | some cur => exact ok (.ackErr hs hcur) (by simp [stopActs]) nofun
        | none =>
          cases hab : x.abort with
          | true => exact ok (.ackEnd hs he hcur (.inr ⟨rfl, hab⟩)) (by simp [stopActs]) nofun
          | false =>
            exact ⟨.escalate, by simp [stopActs], by simp [stepS, hs, hab, (Step.escalate hs hcol).to_step]⟩

theorem runS_eq_runOpt : runS = runOpt stepS :=
  runOpt_unique (fun _ => rfl) (fun s a as => by rw [runS]; cases stepS s a <;> rfl)

theorem runS_bound (acts : List Act) (s s' : St) (hall : ∀ a ∈ acts, a ∈ stopActs) (h : runS s acts = some s') :
    acts.length + nu s' ≤ nu s ∧ s'.stop = s.stop := by
  have hrun := runOpt_measure (P := fun t => t.stop = s.stop) (μ := nu)
    (fun ha hs hp => by
      obtain ⟨hd, hst⟩ := stepS_dec ha hs
      exact ⟨hst.trans hp, hd⟩)
    hall (runS_eq_runOpt ▸ h) rfl
  exact ⟨hrun.2, hrun.1⟩

theorem runS_run : ∀ (acts : List Act) (s s' : St), runS s acts = some s' → run s acts = some s' :=
  fun _ _ _ h => run_eq_runOpt ▸ runOpt_mono (fun hs => (stepS_some hs).1) (runS_eq_runOpt ▸ h)

/-- **C18 (the stop path is short and has one end).** From any state in which a stop was requested: every run of stop-path
actions has at most six steps, and a run that cannot be continued has reached `finished`. -/
theorem C18_every_stop_run_ends_finished (s : St) (hstop : s.stop = true) (acts : List Act) (hacts : ∀ a ∈ acts, a ∈ stopActs)
    (s' : St) (h : runS s acts = some s') :
    acts.length ≤ 6 ∧ ((∀ a ∈ stopActs, stepS s' a = none) → s'.finished = true) := by
  obtain ⟨hb, hs⟩ := runS_bound acts s s' hacts h
  refine ⟨by have := nu_le s; omega, ?_⟩
  refine fun hstuck => eq_true_of_ne_false fun hf => ?_
  obtain ⟨a, ha, h2⟩ := stop_progress s' (hs.trans hstop) hf
  rw [hstuck a ha] at h2
  cases h2

/-! ### fact obligations (Tie B) -/

/-- every `select` of the client's sender and worker loop has a case on the stop signal or a closed channel -/
theorem C18_fact_client_selects : Facts.stop_client_selects =
    [("resendLeftovers", 1), ("processInput", 1), ("sendChunk", 1), ("runSession", 1)] := rfl
/-- the stop signal aborts the active connection -/
theorem C18_fact_abort_on_stop : Facts.stop_abort_on_stop = ["client.inputClosed.Next", "sess.Abort"] := rfl
/-- waits in `collectLeftovers`, `Destroy` and `WaitPendingChunks` carry a timeout -/
theorem C18_fact_bounded_waits : Facts.stop_bounded_waits =
    ["session.ackerEnded.Wait(defs.ForwarderAckerStopTimeout)", "session.ackerEnded.Wait(defs.IntermediateChannelTimeout)",
     "buf.feeder.Stopped().Wait(runTimeout)", "man.metrics.pendingChunks.WaitForZero(defs.BufferShutDownTimeout)",
     "client.inputClosed.Wait(defs.ForwarderRetryInterval)"] := rfl
/-- send, ping and ACK read each get a deadline -/
theorem C18_fact_io_deadlines : Facts.stop_io_deadlines = ["SendChunk:SetWriteDeadline", "SendPing:SetWriteDeadline", "ReadChunkAck:SetReadDeadline"] := rfl

/-- "no chunk only in memory": the chunk in hand is remembered until it is queued for acknowledgement, and the leftovers
not yet resent are part of what `collectLeftovers` merges (same obligations as C02) -/
theorem C18_fact_nothing_forgotten : Facts.client_last_chunk_assignments =
    ["resendLeftovers:&chunk", "resendLeftovers:nil(after-send=true,after-failure-return=true)",
     "processInput:&chunk", "processInput:nil(after-send=true,after-failure-return=true)"] ∧
    Facts.client_leftover_sources = ["fromPrevious...", "fromAckerChannel...", "fromAckerPending...", "*session.lastChunk"] ∧
    Facts.stop_resend_collects_previous = ["collectLeftovers(leftovers, endImmediately)", "collectLeftovers(leftovers, endImmediately)"] := ⟨rfl, rfl, rfl⟩
/-- after the stop signal `run.Run` ends the inputs first, then the pipelines (which save what is pending), and only then the
metrics listener, whose `Shutdown` waits for active requests without a limit -/
theorem C18_fact_run_order : Facts.stop_run_order = ["shutdownInputs", "orchestrator.Shutdown", "msrv.Shutdown"] := rfl
/-- a stop request that arrives while a connection attempt is in progress does not wait for it (the attempt has its own,
much longer timeout): in the transition system `workerFinal` needs no session and no connect action -/
theorem C18_fact_stop_during_connect : Facts.stop_connect_branch = ["return leftovers, noReconnect"] := rfl
/-- when a pipeline's processing worker has stopped, its buffers are destroyed one after the other — `Destroy` bounds its own
waits (`C18_fact_bounded_waits`) — and nothing waits for a buffer's `Stopped()` (which follows an unbounded wait for the consumer) -/
theorem C18_fact_pipeline_teardown : Facts.stop_pipeline_teardown = ["settings.bufferer.Destroy", "onStopped"] := rfl
/-- every connection of the listener has a closer goroutine waiting on the stop request -/
theorem C18_fact_listener_closers : Facts.stop_listener_closers =
    ["run: AnyAwaitables(listener.stopRequest, abortListener) -> socket.Close", "launchConnectionCloser: AnyAwaitables(listener.stopRequest, abortConn) -> conn.Close"] := rfl

end C18
