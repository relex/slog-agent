import SlogModel.Model.FrameIdx
import SlogModel.Props.C08
import SlogModel.Lemmas.Bytes
import SlogModel.Gen.Facts

/-!
  C08, index level — `processBuffer`'s index loop computes what the byte-fed model computes.

  * `C08_process_buffer_is_feed` : for every state of the reader (any pending record, any unscanned partial line)
      and every fragment, the index loop of `processBuffer` over the flat buffer emits exactly the records of
      `Frame.feed` and leaves exactly its buffer contents, `offsetSearch` and `offsetAppend`.
  * `C08_fragmentation_index_level` : hence any two fragmentations of a stream, run through the index loop call by
      call, emit the same records and end in the same buffer (C08_fragmentation transported to the index level).
  * `C08_flush_index_level`, `C08_flushAll_index_level`, `C08_checkOverflow_index_level`, `C08_read_index_level` : `Flush`
      (`bytes.LastIndexByte`, `buffer[:n]`, relocation of `buffer[n+1:]`), `FlushAll`, `checkOverflow` (`buffer[searchStart:]`,
      `buffer[:searchStart-1]`) and a whole `Read` call, transcribed over the flat buffer, are the byte-list model's — so the whole
      reader of `multilinereader.go` is modelled at index level and every C08 theorem is a theorem about it.
  Five whole-body facts pin the transcriptions.
-/

open Frame FrameIdx

namespace C08

theorem ofSt_buf (s : St) : (ofSt s).buf = s.curRev.reverse ++ s.restRev.reverse := List.reverse_append
theorem ofSt_offsetSearch (s : St) : (ofSt s).offsetSearch = s.curRev.length := rfl
theorem ofSt_buf_length (s : St) : (ofSt s).buf.length = s.offsetAppend := by
  rw [ofSt_buf, List.length_append, List.length_reverse, List.length_reverse]; rfl

/-- the tail of `processBuffer` without its case distinction: for `recordStart = 0` nothing is dropped -/
theorem finish_eq (b : Bytes) (rs ss : Nat) : finish b rs ss = { buf := b.drop rs, offsetSearch := ss - rs } := by
  unfold finish
  split
  · rfl
  · have : rs = 0 := by omega
    subst this; rfl

/-- The loop invariant is a decomposition of the buffer, `buffer = pre ++ cur ++ rem`: `pre` has been emitted, `cur` is the
pending record (the model's `curRev`, reversed), `rem` is unscanned; the two cursors are lengths.  Every slice the loop takes
is then read off by `List.mid_of_append`. -/
theorem pbLoop_feed (t : Bytes → Bool) (buffer : Bytes) (fuel : Nat) {pre curRev rem : Bytes} {rs ss : Nat}
    (acc : List Bytes) (hfuel : rem.length < fuel) (hb : buffer = pre ++ curRev.reverse ++ rem) (hrs : rs = pre.length)
    (hss : ss = pre.length + curRev.length) (hne : pre ≠ [] → curRev ≠ []) :
    ∃ rs' ss', pbLoop t buffer fuel rs ss acc = (rs', ss', (feed t ⟨curRev, []⟩ rem).2.reverse ++ acc) ∧
      finish buffer rs' ss' = ofSt (feed t ⟨curRev, []⟩ rem).1 := by
  induction fuel generalizing pre curRev rem rs ss acc with
  | zero => omega
  | succ fuel ih =>
    have hdrop : buffer.drop ss = rem := List.drop_of_append hb (by simp [hss])
    simp only [pbLoop, hdrop]
    cases hib : indexByte rem 10 with
    | none =>
      rw [feed_no_newline t _ rem (indexByte_eq_none_iff.mp hib)]
      refine ⟨rs, ss, by simp, ?_⟩
      rw [finish_eq, List.drop_of_append (hb.trans (List.append_assoc ..)) hrs]
      simp [ofSt, hss, hrs]
    | some k =>
      obtain ⟨l, post, rfl, h10, rfl⟩ := indexByte_some_split hib
      have hsl : subSlice buffer ss (l.length + ss) = l :=
        List.mid_of_append (a := pre ++ curRev.reverse) (c := 10 :: post) (by simp [hb]) (by simp [hss])
          (by simp [hss]; omega)
      have h1 : ss > 0 ↔ curRev ≠ [] := by
        constructor
        · rintro h rfl
          by_cases hp : pre = []
          · subst hp; simp at hss; omega
          · exact hne hp rfl
        · intro h; have := List.length_pos_iff.mpr h; omega
      have h2 : ss < l.length + ss ↔ l ≠ [] := by rw [← List.length_pos_iff]; omega
      rw [show l ++ 10 :: post = (l ++ [10]) ++ post by simp, feed_append, feed_line t _ l h10]
      simp only [List.append_nil, hsl, lineStep, List.reverse_reverse, h1, h2]
      by_cases hc : curRev ≠ [] ∧ l ≠ [] ∧ t l = true
      · -- the next record starts here: the pending record `buffer[rs : ss-1]` is emitted
        rw [if_pos hc, if_pos hc]
        have hemit : subSlice buffer rs (ss - 1) = curRev.tail.reverse := by
          obtain ⟨x, r, rfl⟩ := List.exists_cons_of_ne_nil hc.1
          exact List.mid_of_append (a := pre) (c := x :: (l ++ 10 :: post)) (by simp [hb]) hrs (by simp [hss])
        obtain ⟨rs', ss', e1, e2⟩ := ih (pre := pre ++ curRev.reverse) (curRev := 10 :: l.reverse) (rem := post)
          (rs := ss) (ss := l.length + ss + 1) (subSlice buffer rs (ss - 1) :: acc)
          (hfuel := by simp at hfuel; omega) (hb := by simp [hb]) (hrs := by simp [hss])
          (hss := by simp [hss]; omega) (hne := by simp)
        exact ⟨rs', ss', by rw [e1, hemit]; simp, e2⟩
      · -- a continuation line, or the first line of the buffer: nothing is emitted
        rw [if_neg hc, if_neg hc]
        obtain ⟨rs', ss', e1, e2⟩ := ih (curRev := 10 :: (l.reverse ++ curRev)) (rem := post) (ss := l.length + ss + 1)
          acc (hfuel := by simp at hfuel; omega) (hb := by simp [hb]) (hrs := hrs) (hss := by simp [hss]; omega)
          (hne := by simp)
        exact ⟨rs', ss', by rw [e1]; simp, e2⟩

/-- **C08 (the index loop is the byte-fed model).** -/
theorem C08_process_buffer_is_feed (t : Bytes → Bool) (s : St) (hs : Scanned s) (frag : Bytes) :
    processBuffer t (ofSt s) frag = (ofSt (feed t s frag).1, (feed t s frag).2) := by
  -- the unscanned tail is re-scanned by the loop and was merely accumulated by the model
  have hre : feed t s frag = feed t ⟨s.curRev, []⟩ (s.restRev.reverse ++ frag) := by
    rw [feed_append t _ s.restRev.reverse frag, feed_no_newline t _ s.restRev.reverse (by simpa [Scanned] using hs)]
    simp
  obtain ⟨rs', ss', h1, h2⟩ := pbLoop_feed t ((ofSt s).buf ++ frag) (((ofSt s).buf ++ frag).length + 1)
    (pre := []) (curRev := s.curRev) (rem := s.restRev.reverse ++ frag) (rs := 0) (ss := s.curRev.length) []
    (hfuel := by simp [ofSt_buf]; omega) (hb := by simp [ofSt_buf]) (hrs := rfl) (hss := by simp) (hne := by simp)
  simp only [processBuffer, ofSt_offsetSearch, h1]
  rw [h2, hre]; simp

/-- successive `processBuffer` calls (no overflow handling in between), records concatenated -/
def runIdx (t : Bytes → Bool) : Idx → List Bytes → Idx × List Bytes
  | x, [] => (x, [])
  | x, f :: fs =>
    let (x1, o1) := processBuffer t x f
    let (x2, o2) := runIdx t x1 fs
    (x2, o1 ++ o2)

theorem runIdx_is_feed (t : Bytes → Bool) : ∀ (frags : List Bytes) (s : St), Scanned s →
    runIdx t (ofSt s) frags = (ofSt (feed t s frags.flatten).1, (feed t s frags.flatten).2)
  | [], s, _ => by simp [runIdx, feed_nil]
  | f :: fs, s, hs => by
    simp only [runIdx, C08_process_buffer_is_feed t s hs f, List.flatten_cons]
    rw [runIdx_is_feed t fs _ (feed_scanned t s f hs), feed_append]

/-- **C08 (fragmentation, at the level of the index loop).** Two fragmentations of one byte stream, each run through
`processBuffer`'s index loop call after call from the same reader state, emit the same records and leave the same buffer
and offsets. -/
theorem C08_fragmentation_index_level (t : Bytes → Bool) (s : St) (hs : Scanned s) (f₁ f₂ : List Bytes)
    (h : f₁.flatten = f₂.flatten) : runIdx t (ofSt s) f₁ = runIdx t (ofSt s) f₂ := by
  rw [runIdx_is_feed t f₁ s hs, runIdx_is_feed t f₂ s hs, h]

/-- non-vacuity: two records, the second with a continuation line, cut inside a line and right after a newline -/
example : (runIdx (fun l => l.head? = some 60) { buf := [], offsetSearch := 0 } [b!"<a\n<b", b!"\n x\n", b!"<c\n"]).2 =
    [b!"<a", b!"<b\n x"] := rfl
example : (runIdx (fun l => l.head? = some 60) { buf := [], offsetSearch := 0 } [b!"<a\n<b\n x\n<c\n"]).1 =
    { buf := b!"<c\n", offsetSearch := 3 } := rfl

theorem ofSt_empty : ofSt ({} : St) = { buf := [], offsetSearch := 0 } := rfl

/-- **C08 (`Flush` at index level).** -/
theorem C08_flush_index_level (t : Bytes → Bool) (s : St) :
    FrameIdx.flush t (ofSt s) = (ofSt (Frame.flush t s).1, (Frame.flush t s).2) := by
  unfold FrameIdx.flush Frame.flush lastIndexNL
  have hb : (ofSt s).buf.reverse = s.restRev ++ s.curRev := List.reverse_reverse _
  rw [hb]
  cases hib : indexByte (s.restRev ++ s.curRev) 10 with
  | none => simp [splitLastNL_none _ [] (indexByte_eq_none_iff.mp hib)]
  | some k =>
    obtain ⟨after, r, hsplit, h10, rfl⟩ := indexByte_some_split hib
    rw [hsplit, splitLastNL_some after r [] h10]
    have hbuf : (ofSt s).buf = r.reverse ++ 10 :: after.reverse := by
      rw [← List.reverse_reverse (ofSt s).buf, hb, hsplit]; simp
    have hlen : (ofSt s).buf.length - 1 - after.length = r.length := by rw [hbuf]; simp
    simp only [Option.map_some, hlen, List.append_nil]
    rw [List.take_of_append hbuf (by simp)]
    rw [List.drop_of_append (a := r.reverse ++ [10]) (c := after.reverse) (by simp [hbuf]) (by simp)]
    refine Prod.ext (by simp [ofSt]) ?_
    cases r <;> simp

/-- **C08 (`FlushAll` at index level).** -/
theorem C08_flushAll_index_level (t : Bytes → Bool) (s : St) :
    FrameIdx.flushAll t (ofSt s) = (ofSt (Frame.flushAll t s).1, (Frame.flushAll t s).2) := by
  unfold FrameIdx.flushAll Frame.flushAll
  generalize hb : s.restRev ++ s.curRev = bufRev
  have hbuf : (ofSt s).buf = bufRev.reverse := congrArg List.reverse hb
  rw [hbuf]
  refine Prod.ext (by simp [ofSt]) ?_
  cases bufRev with
  | nil => simp
  | cons x r =>
    by_cases hx : x = 10
    · subst hx
      simp [List.take_left']
    · simp [hx]

/-- **C08 (`checkOverflow` at index level).** -/
theorem C08_checkOverflow_index_level (c : Cfg) (t : Bytes → Bool) (s : St) :
    FrameIdx.checkOverflow c t (ofSt s) = (ofSt (Frame.checkOverflow c t s).1, (Frame.checkOverflow c t s).2) := by
  unfold FrameIdx.checkOverflow Frame.checkOverflow
  have hbuf := ofSt_buf s
  rw [ofSt_buf_length]
  by_cases hroom : c.cap - s.offsetAppend ≥ c.soft
  · simp [hroom]
  · have htake : (ofSt s).buf.take (s.curRev.length - 1) = s.curRev.tail.reverse := by
      rw [hbuf, List.take_append_of_le_length (by simp), ← List.dropLast_reverse, List.dropLast_eq_take]
      simp
    have hne : (s.curRev.length > 0) ↔ s.curRev ≠ [] := List.length_pos_iff
    have hdrop : (ofSt s).buf.drop s.curRev.length = s.restRev.reverse := List.drop_of_append hbuf (by simp)
    simp only [hroom, if_false, ofSt_offsetSearch, hdrop, htake, hne]
    by_cases hc : s.curRev ≠ [] ∧ t s.restRev.reverse = true
    · rw [if_pos hc, if_pos hc]; simp [ofSt]
    · rw [if_neg hc, if_neg hc]; simp [ofSt]

/-- `Read` = `processBuffer` then `checkOverflow`, at index level, is the model's `read` (a non-empty fragment) -/
theorem C08_read_index_level (c : Cfg) (t : Bytes → Bool) (s : St) (hs : Scanned s) (frag : Bytes) (hne : frag ≠ []) :
    (let (x1, o1) := processBuffer t (ofSt s) frag
     let (x2, o2) := FrameIdx.checkOverflow c t x1
     (x2, o1 ++ o2)) = (ofSt (Frame.read c t s frag).1, (Frame.read c t s frag).2) := by
  simp only [C08_process_buffer_is_feed t s hs frag, C08_checkOverflow_index_level, Frame.read, hne, if_false]

/-! ### fact obligations (Tie B): the statements `FrameIdx.pbLoop` / `finish` / `processBuffer` transcribe -/

/-- `processBuffer`, statement by statement: cursors, `bytes.IndexByte`, the guard of the start test, the two slices, the
relocation and the offsets — and `checkOverflow` last -/
theorem C08_fact_process_buffer : Facts.frame_process_buffer =
    ["recordStart := 0", "searchStart := mlr.offsetSearch", "buffer := mlr.buffer[:bufferEnd]", "test := mlr.testRecordStart",
     "for {", "nextEndRel := bytes.IndexByte(buffer[searchStart:], '\\n')", "if nextEndRel == -1 {", "break", "}",
     "nextEnd := nextEndRel + searchStart", "if searchStart > 0 && searchStart < nextEnd {",
     "nextLine := buffer[searchStart:nextEnd]", "if test(nextLine) {", "prevRecord := buffer[recordStart : searchStart-1]",
     "mlr.consumeRecord(prevRecord)", "recordStart = searchStart", "}", "}", "searchStart = nextEnd + 1", "}",
     "if recordStart > 0 {", "mlr.offsetAppend = copy(mlr.buffer, buffer[recordStart:])",
     "mlr.offsetSearch = searchStart - recordStart", "} else {", "mlr.offsetAppend = bufferEnd",
     "mlr.offsetSearch = searchStart", "}", "mlr.checkOverflow()"] := rfl

/-- `Read`: the new bytes land behind `offsetAppend` and `processBuffer` sees the buffer up to their end -/
theorem C08_fact_read : Facts.frame_read =
    ["n, err := mlr.readInput(mlr.buffer[mlr.offsetAppend:])", "if n > 0 {", "bufferedLength := n + mlr.offsetAppend",
     "mlr.processBuffer(bufferedLength)", "}", "return err"] := rfl

/-- `Flush`, `FlushAll`, `checkOverflow`, statement by statement (`FrameIdx.flush` / `flushAll` / `checkOverflow`) -/
theorem C08_fact_flush : Facts.frame_flush =
    ["buffer := mlr.buffer[:mlr.offsetAppend]", "n := bytes.LastIndexByte(buffer, '\\n')", "if n == -1 {", "return", "}",
     "record := buffer[:n]", "if len(record) > 0 && mlr.testRecordStart(record) {", "mlr.consumeRecord(record)", "}",
     "mlr.offsetAppend = copy(mlr.buffer, buffer[n+1:])", "mlr.offsetSearch = 0"] := rfl
theorem C08_fact_flush_all : Facts.frame_flush_all =
    ["record := mlr.buffer[:mlr.offsetAppend]", "if len(record) > 0 {", "if record[len(record)-1] == '\\n' {",
     "record = record[:len(record)-1]", "}", "if mlr.testRecordStart(record) {", "mlr.consumeRecord(record)", "}", "}",
     "mlr.offsetAppend = 0", "mlr.offsetSearch = 0"] := rfl
theorem C08_fact_check_overflow : Facts.frame_check_overflow =
    ["if len(mlr.buffer)-mlr.offsetAppend >= mlr.softRecordLimit {", "return", "}", "buffer := mlr.buffer[:mlr.offsetAppend]",
     "if searchStart := mlr.offsetSearch; searchStart > 0 {", "if nextRecord := buffer[searchStart:]; mlr.testRecordStart(nextRecord) {",
     "if prevRecord := buffer[:searchStart-1]; mlr.testRecordStart(prevRecord) {", "mlr.consumeRecord(prevRecord)", "}",
     "mlr.consumeRecord(nextRecord)", "goto RESET", "}", "}", "if wholeRecord := buffer; mlr.testRecordStart(wholeRecord) {",
     "mlr.consumeRecord(wholeRecord)", "}", "RESET:", "mlr.offsetAppend = 0", "mlr.offsetSearch = 0"] := rfl

end C08
