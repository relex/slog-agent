import SlogModel.Lemmas.XformEq
import SlogModel.Lemmas.Bytes
import SlogModel.Lemmas.Utf8
import SlogModel.Gen.Facts

/-!
  C15 — Transforms and matchers behave as documented for all values.

  The Lean interpreter `Xform.runSteps` *is* the independent reference interpreter the property
  names; the correspondence run compares the real transforms with it on generated programs.  The
  theorems below pin the documented semantics of the language on the interpreter itself:

  * `C15_sampler_tracks`   : sampled dropping stays within one record of the configured rate at
                             every prefix of the matched stream
  * `C15_first_drop_wins`, `C15_block_inline`, `C15_if_*`, `C15_switch_*` : control structure laws
  * `C15_match_order_irrelevant` : cost sorting of match conditions cannot change the result
  * `C15_slice_spec`       : `${name[a:b]}` is the Python slice
  * `C15_truncate_*`, `C15_mapvalue_spec`, `C15_delfields`, `C15_unescape_once`
  * `C15_extract_head_decompose`, `C15_extract_tail_decompose`, `C15_extract_head_first` : text =
                             left ++ tag ++ right ++ rest, label = trimmed tag, first boundary within the search range
  * `C15_extract_head_total`, `C15_extract_tail_total` : extraction never panics for extractors accepted at load time
-/

namespace C15
open Xform

def sampleRun (rate : Nat) : Nat → Nat × Nat
  | 0 => (0, 0)
  | n + 1 => (sampleDrop rate (sampleRun rate n)).2

/-- **C15 (sampling tracks the percentage).** After any number `n` of matched records the number of
dropped ones `d` satisfies `rate·n − rate ≤ 100·d ≤ rate·n + 100`: within one record of `rate %`. -/
theorem C15_sampler_tracks (rate : Nat) (h1 : 1 ≤ rate) (h2 : rate ≤ 100) (n : Nat) :
    (sampleRun rate n).1 = n ∧
    100 * (sampleRun rate n).2 ≤ rate * n + 100 ∧ rate * n ≤ 100 * (sampleRun rate n).2 + rate := by
  induction n with
  | zero => simp [sampleRun]
  | succ n ih =>
    simp only [sampleRun, sampleDrop]
    generalize sampleRun rate n = md at ih
    obtain ⟨m, d⟩ := md
    obtain ⟨rfl, hu, hl⟩ := ih
    dsimp only at hu hl
    -- for m > 0 the quotient test `100·d / m < rate` is the cross-multiplied `100·d < rate·m`
    have hdiv : 0 < m → (100 * d / m < rate ↔ 100 * d < rate * m) := fun h => by
      rw [Nat.div_lt_iff_lt_mul h]
    split <;> simp only [Nat.mul_add, Nat.mul_one]
    · next hc =>
      have := (hdiv hc.1).mp hc.2
      exact ⟨trivial, by omega, by omega⟩
    · next hc =>
      rcases Nat.eq_zero_or_pos m with rfl | hpos
      · exact ⟨trivial, by omega, by omega⟩
      · have : ¬ 100 * d < rate * m := fun h => hc ⟨hpos, (hdiv hpos).mpr h⟩
        exact ⟨trivial, by omega, by omega⟩

/-- **C15 (first drop wins).** Once a step drops the record, no later step runs. -/
theorem C15_first_drop_wins (st : XState) (r r1 : Rec) (st1 : XState) (a b : List Step)
    (h : runSteps st r a = .ok (.drop, r1, st1)) : runSteps st r (a ++ b) = .ok (.drop, r1, st1) := by
  rw [runSteps_append, h]

/-- **C15 (block).** A block behaves as its steps written in line. -/
theorem C15_block_inline (st : XState) (r : Rec) (steps : List Step) :
    runStep st r (.block steps) = runSteps st r steps :=
  runStep_block st r steps

theorem C15_if_true (st : XState) (r : Rec) (m : Xform.Match) (thn : List Step) (h : matchRec m r = true) :
    runStep st r (.iff m thn) = runSteps st r thn := by
  rw [runStep_iff, if_pos h]

theorem C15_if_false (st : XState) (r : Rec) (m : Xform.Match) (thn : List Step) (h : matchRec m r = false) :
    runStep st r (.iff m thn) = .ok (.pass, r, st) := by
  rw [runStep_iff, h]; rfl

/-- **C15 (switch).** The first case whose condition matches decides; later cases are not consulted. -/
theorem C15_switch_first_match (st : XState) (r : Rec) (pre : List (Xform.Match × List Step))
    (m : Xform.Match) (thn : List Step) (post : List (Xform.Match × List Step))
    (hpre : ∀ c ∈ pre, matchRec c.1 r = false) (hm : matchRec m r = true) :
    runStep st r (.switch (pre ++ (m, thn) :: post)) = runSteps st r thn := by
  rw [runStep_switch, runCases_skip st r pre _ hpre, runCases_cons, if_pos hm]

theorem C15_switch_no_match (st : XState) (r : Rec) (cases : List (Xform.Match × List Step))
    (h : ∀ c ∈ cases, matchRec c.1 r = false) : runStep st r (.switch cases) = .ok (.pass, r, st) := by
  rw [runStep_switch, ← List.append_nil cases, runCases_skip st r cases [] h, runCases]

/-- **C15 (match order irrelevant).** Conditions are sorted by cost before evaluation; any
reordering gives the same result. -/
theorem C15_match_order_irrelevant (m₁ m₂ : Xform.Match) (r : Rec) (h : m₁.Perm m₂) :
    matchRec m₁ r = matchRec m₂ r := by
  unfold matchRec
  induction h with
  | nil => rfl
  | cons x _ ih => simp [List.all_cons, ih]
  | swap x y l => simp [List.all_cons, Bool.and_left_comm]
  | trans _ _ ih1 ih2 => rw [ih1, ih2]

/-- Python's `v[a:b]` -/
def pySlice (v : Bytes) (a b : Option Int) : Bytes :=
  let n : Int := v.length
  let norm (x : Int) : Int := if x < 0 then (if x + n < 0 then 0 else x + n) else (if x > n then n else x)
  let s := norm (a.getD 0)
  let e := match b with | some y => norm y | none => n
  if s < e then (v.drop s.toNat).take (e - s).toNat else []

theorem guard_nil {α} (g c : Prop) [Decidable g] [Decidable c] (x : List α) (h : g → ¬ c) :
    (if g then [] else if c then x else []) = if c then x else [] := by
  by_cases hg : g
  · rw [if_pos hg, if_neg (h hg)]
  · rw [if_neg hg]

theorem cut_congr (v : Bytes) (s e s' e' : Int) (h : s < e ∨ s' < e' → s = s' ∧ e = e') :
    (if s < e then (v.drop s.toNat).take (e - s).toNat else []) =
      if s' < e' then (v.drop s'.toNat).take (e' - s').toNat else [] := by
  by_cases h1 : s < e
  · obtain ⟨rfl, rfl⟩ := h (.inl h1); rfl
  · by_cases h2 : s' < e'
    · obtain ⟨rfl, rfl⟩ := h (.inr h2); rfl
    · rw [if_neg h1, if_neg h2]

/-- **C15 (substring expressions).** `${name[a:b]}` yields Python's `name[a:b]` for every value
shorter than 2³¹ bytes and all bounds, including negative and out-of-range ones. -/
theorem C15_slice_spec (v : Bytes) (a b : Option Int) (hv : v.length < 2147483647) :
    Route.sliceStr v a b = pySlice v a b := by
  unfold Route.sliceStr pySlice
  generalize a.getD 0 = s0
  cases b <;> simp only [Option.getD]
  all_goals
    -- the code's two early exits are redundant; then both sides cut between the same clamped bounds
    rw [guard_nil, guard_nil]
    · apply cut_congr; omega
    all_goals omega

/-- **C15 (truncate).** Values within `maxLen + len(suffix)` are untouched; longer ones become a
clean-up of their first `maxLen` bytes followed by the suffix, never longer than `maxLen + len(suffix)`. -/
theorem C15_truncate_spec (v : Bytes) (maxLen : Nat) (suffix : Bytes) :
    (v.length ≤ maxLen + suffix.length → truncateVal v maxLen suffix = v) ∧
    (v.length > maxLen + suffix.length →
      truncateVal v maxLen suffix = Utf8.clean (v.take maxLen) ++ suffix ∧
      (truncateVal v maxLen suffix).length ≤ maxLen + suffix.length) := by
  unfold truncateVal
  refine ⟨fun h => by simp [Nat.not_lt.mpr h], fun h => ?_⟩
  simp only [h, if_true, List.length_append, true_and]
  have := Utf8.clean_length (v.take maxLen)
  simp only [List.length_take] at this
  omega

/-- pure-ASCII values are cut exactly at `maxLen` -/
theorem C15_truncate_ascii (v : Bytes) (maxLen : Nat) (suffix : Bytes) (h : ∀ b ∈ v, b ≤ 127)
    (hl : v.length > maxLen + suffix.length) : truncateVal v maxLen suffix = v.take maxLen ++ suffix := by
  simp [truncateVal, hl, Utf8.clean_ascii _ (fun b hb => h b (List.mem_of_mem_take hb))]

/-- **C15 (truncate cuts at a valid UTF-8 boundary).** A valid UTF-8 value longer than the limit
becomes a valid prefix of itself, at most three bytes (one cut rune) short of `maxLen`, then the suffix. -/
theorem C15_truncate_utf8 (v : Bytes) (maxLen : Nat) (suffix : Bytes) (hv : Utf8.valid v = true)
    (hl : v.length > maxLen + suffix.length) :
    ∃ k, truncateVal v maxLen suffix = v.take k ++ suffix ∧ Utf8.valid (v.take k) = true ∧
      k ≤ maxLen ∧ maxLen ≤ k + 3 := by
  obtain ⟨k, a, b, c, d⟩ := Utf8.clean_take_valid v hv maxLen
  exact ⟨k, by simp [truncateVal, hl, a], b, c, d (by omega)⟩

theorem C15_mapvalue_spec (st : XState) (r : Rec) (key : Nat) (mapping : List (Bytes × Bytes)) (dflt : Bytes) :
    runStep st r (.mapValue key mapping dflt) =
      .ok (.pass, (if r.get key = [] then r else
            r.set key (match mapping.lookup (r.get key) with | some v => v | none => dflt)), st) := by
  simp only [runStep]
  split
  · rfl
  · cases mapping.lookup (r.get key) <;> rfl

/-- **C15 (delFields).** The listed fields become empty, all others keep their value. -/
theorem C15_delfields (st : XState) (r : Rec) (keys : List Nat) (hk : ∀ k ∈ keys, k < r.fields.length) :
    ∃ r', runStep st r (.delFields keys) = .ok (.pass, r', st) ∧
      (∀ k ∈ keys, r'.get k = []) ∧ (∀ j, j ∉ keys → r'.get j = r.get j) ∧
      r'.fields.length = r.fields.length :=
  -- `hk` is not needed: a slot that does not exist reads as empty before and after
  ⟨_, rfl, fun k h => by rw [Rec.get_delFields, if_pos h], fun j h => by rw [Rec.get_delFields, if_neg h],
    Rec.length_delFields keys r⟩

/-- **C15 (unescape once).** Unescaping marks the record; a record already marked (multi-line
input, or unescaped before) is not unescaped again. -/
theorem C15_unescape_once (st : XState) (r : Rec) (key : Nat) :
    (r.unescaped = true → runStep st r (.unescape key) = .ok (.pass, r, st)) ∧
    (r.unescaped = false → ∃ r', runStep st r (.unescape key) = .ok (.pass, r', st) ∧ r'.unescaped = true ∧
      runStep st r' (.unescape key) = .ok (.pass, r', st)) := by
  have marked : ∀ r : Rec, r.unescaped = true → runStep st r (.unescape key) = .ok (.pass, r, st) :=
    fun r h => by simp [runStep, h]
  refine ⟨marked r, fun h => ?_⟩
  have hr : ∃ r', runStep st r (.unescape key) = .ok (.pass, r', st) ∧ r'.unescaped = true := by
    simp only [runStep, h, Bool.false_eq_true, if_false]
    exact ⟨_, rfl, by split <;> rfl⟩
  obtain ⟨r', h1, h2⟩ := hr
  exact ⟨r', h1, h2, marked r' h2⟩

theorem hasPrefix_iff {s p : Bytes} : hasPrefix s p = true ↔ p <+: s := by
  rw [List.prefix_iff_eq_take]
  simp only [hasPrefix, Bool.and_eq_true, decide_eq_true_eq, beq_iff_eq]
  exact ⟨fun h => h.2.symm, fun h => ⟨by rw [h, List.length_take]; omega, h.symm⟩⟩

theorem hasSuffix_iff {s p : Bytes} : hasSuffix s p = true ↔ p <:+ s := List.drop_beq_iff_suffix

theorem decomp_of_hasPrefix {s sub : Bytes} {i : Nat} (hp : hasPrefix (s.drop i) sub = true) (hi : i ≤ s.length) :
    s = s.take i ++ sub ++ s.drop (i + sub.length) ∧ i + sub.length ≤ s.length := by
  obtain ⟨t, ht⟩ := hasPrefix_iff.mp hp
  have hlen : i + sub.length ≤ s.length := by
    have := congrArg List.length ht
    simp at this; omega
  have ht' : s.drop (i + sub.length) = t := by rw [← List.drop_drop, ← ht, List.drop_left]
  exact ⟨by rw [ht', List.append_assoc, ht, List.take_append_drop], hlen⟩

theorem hasPrefix_take (s p : Bytes) {n : Nat} (hn : p.length ≤ n) : hasPrefix (s.take n) p = hasPrefix s p := by
  rw [Bool.eq_iff_iff, hasPrefix_iff, hasPrefix_iff, List.prefix_take_iff]
  exact ⟨fun h => h.1, fun h => ⟨h, hn⟩⟩

/-- `strings.Index` finds the first occurrence -/
theorem indexOf_some {s sub : Bytes} {i : Nat} (h : indexOf s sub = some i) :
    hasPrefix (s.drop i) sub = true ∧ i ≤ s.length ∧ ∀ j, j < i → hasPrefix (s.drop j) sub = false := by
  fun_induction indexOf s sub generalizing i
  · -- empty string, empty pattern
    cases h; exact ⟨rfl, Nat.le_refl _, fun j hj => by omega⟩
  · cases h
  · -- the pattern is a prefix here
    next hp => cases h; exact ⟨hp, Nat.zero_le _, fun j hj => by omega⟩
  · -- it is not: the occurrence found in the rest, shifted by one
    next c r sub hp ih =>
    obtain ⟨k, hk, rfl⟩ := Option.map_eq_some_iff.mp h
    obtain ⟨a, b, f⟩ := ih hk
    refine ⟨a, Nat.succ_le_succ b, fun j hj => ?_⟩
    cases j with
    | zero => simpa using hp
    | succ j => exact f j (by omega)

/-- `strings.LastIndex` finds the last occurrence -/
theorem lastIndexOf_some {s sub : Bytes} {i : Nat} (h : lastIndexOf s sub = some i) :
    hasPrefix (s.drop i) sub = true ∧ i ≤ s.length ∧
    ∀ j, i < j → j ≤ s.length → hasPrefix (s.drop j) sub = false := by
  -- the reversed range is the range read through `k ↦ length - k`: the first hit there is the last one here
  rw [lastIndexOf, List.range_eq_range', List.reverse_range', List.find?_map] at h
  obtain ⟨k, hk, rfl⟩ := Option.map_eq_some_iff.mp h
  obtain ⟨hp, hm, hfirst⟩ := List.find?_range_eq_some.mp hk
  rw [List.mem_range] at hm
  refine ⟨hp, by omega, fun j h1 h2 => ?_⟩
  have := hfirst (s.length - j) (by omega)
  rwa [Function.comp, show 0 + (s.length + 1) - 1 - (s.length - j) = j by omega, Bool.not_eq_true'] at this

theorem stripLeft_some {e : Extractor} {text s : Bytes} (h : stripLeft e text = some s) : text = e.left ++ s := by
  revert h
  fun_cases stripLeft e text <;> intro h <;> cases h
  · next hp => obtain ⟨t, rfl⟩ := hasPrefix_iff.mp hp; rw [List.drop_left]
  · next hl => rw [Decidable.not_not.mp hl]; rfl

theorem stripRight_some {e : Extractor} {text s : Bytes} (h : stripRight e text = some s) : text = s ++ e.right := by
  revert h
  fun_cases stripRight e text <;> intro h <;> cases h
  · next hp => obtain ⟨t, rfl⟩ := hasSuffix_iff.mp hp; simp
  · next hl => rw [Decidable.not_not.mp hl, List.append_nil]

theorem headSearch_some {e : Extractor} {s : Bytes} {i : Nat} (h : headSearch e s = some i) :
    s = s.take i ++ e.right ++ s.drop (i + e.right.length) ∧
    (i + e.right.length ≤ e.maxRange ∨ s.length ≤ e.maxRange) ∧
    ∀ j, j < i → hasPrefix (s.drop j) e.right = false := by
  unfold headSearch at h
  split at h
  · -- the search ran on the first `maxRange` bytes
    obtain ⟨hp, hi, hfirst⟩ := indexOf_some h
    have hb := (decomp_of_hasPrefix hp hi).2
    simp only [List.length_take] at hb hi
    rw [List.drop_take, hasPrefix_take _ _ (by omega)] at hp
    refine ⟨(decomp_of_hasPrefix hp (by omega)).1, Or.inl (by omega), fun j hj => ?_⟩
    have := hfirst j hj
    rwa [List.drop_take, hasPrefix_take _ _ (by omega)] at this
  · obtain ⟨hp, hi, hfirst⟩ := indexOf_some h
    exact ⟨(decomp_of_hasPrefix hp hi).1, Or.inr (by omega), hfirst⟩

theorem tailSearch_some {e : Extractor} {s : Bytes} {i : Nat} (h : tailSearch e s = some i) :
    s = s.take i ++ e.left ++ s.drop (i + e.left.length) ∧ i + e.left.length ≤ s.length ∧
    (s.length ≤ i + e.maxRange) ∧
    (∀ j, i < j → j ≤ s.length → hasPrefix (s.drop j) e.left = false) := by
  unfold tailSearch at h
  split at h
  · -- the search ran on the last `maxRange` bytes
    next hgt =>
    obtain ⟨k, hl, rfl⟩ := Option.map_eq_some_iff.mp h
    -- an occurrence at `k` in the window is one at `k + (length - maxRange)` in the string
    obtain ⟨hp, hb, hlast⟩ := lastIndexOf_some hl
    rw [List.drop_drop, Nat.add_comm] at hp
    rw [List.length_drop] at hb
    obtain ⟨a, b⟩ := decomp_of_hasPrefix hp (by omega)
    refine ⟨a, b, by omega, fun j h1 h2 => ?_⟩
    have := hlast (j - (s.length - e.maxRange)) (by omega) (by rw [List.length_drop]; omega)
    rwa [List.drop_drop, Nat.add_sub_cancel' (by omega)] at this
  · obtain ⟨a, b, c⟩ := lastIndexOf_some h
    obtain ⟨d, f⟩ := decomp_of_hasPrefix a b
    exact ⟨d, f, by omega, c⟩

/-- a check that gives up with `none`: if the program still returned `some x`, what follows the check returned it -/
theorem check_some {α β : Type} {m : GoM β} {q : β → Prop} [DecidablePred q] {k : GoM (Option α)} {x : α}
    (h : (do let v ← m; if q v then pure none else k) = .ok (some x)) : k = .ok (some x) := by
  obtain ⟨v, -, hk⟩ := GoM.bind_eq_ok_iff.mp h
  split at hk
  · cases hk
  · exact hk

/-- a fixed result `some R` behind an optional such check: whatever is returned as `some x` is `R` -/
theorem guard_some {α β : Type} {c : Prop} [Decidable c] {m : GoM β} {q : β → Prop} [DecidablePred q] {R x : α}
    (h : (if c then (do let v ← m; if q v then pure none else pure (some R)) else pure (some R)) = Except.ok (some x)) :
    R = x := by
  split at h
  · cases check_some h; rfl
  · cases h; rfl

/- The search for the boundary follows the first-character check on both of its ways; the unfolded program keeps it once,
as a local `have`, which `extract_lets search` names. -/

theorem extractStart_inv {e : Extractor} {text label rest : Bytes}
    (hr : e.right ≠ []) (h : extractStart e text = .ok (some (label, rest))) :
    ∃ s i, stripLeft e text = some s ∧ headSearch e s = some i ∧
      (trimCtl (s.take i), s.drop (i + e.right.length)) = (label, rest) := by
  unfold extractStart at h
  split at h
  · cases h
  next s hS =>
    extract_lets search at h
    have hs : search () = .ok (some (label, rest)) := by
      split at h
      · exact check_some h
      · exact h
    simp only [search, hr, ne_eq, not_false_eq_true, if_true] at hs
    split at hs
    · cases hs
    next i hH => exact ⟨s, i, hS, hH, guard_some hs⟩

theorem extractEnd_inv {e : Extractor} {text label rest : Bytes}
    (hl : e.left ≠ []) (h : extractEnd e text = .ok (some (label, rest))) :
    ∃ s i, stripRight e text = some s ∧ tailSearch e s = some i ∧
      (trimCtl (s.drop (i + e.left.length)), s.take i) = (label, rest) := by
  unfold extractEnd at h
  split at h
  · cases h
  next s hS =>
    extract_lets search at h
    have hs : search () = .ok (some (label, rest)) := by
      split at h
      · exact check_some h
      · exact h
    simp only [search, hl, ne_eq, not_false_eq_true, if_true] at hs
    split at hs
    · cases hs
    next i hT => exact ⟨s, i, hS, hT, guard_some hs⟩

/-- **C15 (extractHead decomposes the text).** When head extraction with a right boundary succeeds,
the text is `left ++ tag ++ right ++ rest`, the extracted label is the tag with surrounding blanks
and control characters trimmed, the remaining text is `rest`, and the boundary was found within the
search range. -/
theorem C15_extract_head_decompose (e : Extractor) (text label rest : Bytes)
    (hr : e.right ≠ []) (h : extractStart e text = .ok (some (label, rest))) :
    ∃ tag, text = e.left ++ tag ++ e.right ++ rest ∧ label = trimCtl tag ∧
      (tag.length + e.right.length ≤ e.maxRange ∨ text.length ≤ e.left.length + e.maxRange) := by
  obtain ⟨s, i, hS, hH, hp⟩ := extractStart_inv hr h
  cases hp
  have hS := stripLeft_some hS
  obtain ⟨hd, hb, _⟩ := headSearch_some hH
  refine ⟨s.take i, ?_, rfl, ?_⟩
  · rw [hS, List.append_assoc, List.append_assoc, ← List.append_assoc (s.take i), ← hd]
  · rcases hb with hb | hb
    · left; simp only [List.length_take]; omega
    · right; rw [hS]; simp; omega

/-- **C15 (extractHead takes the first boundary).** No occurrence of the right boundary starts
inside the tag before the one that ended it. -/
theorem C15_extract_head_first (e : Extractor) (text label rest : Bytes)
    (hr : e.right ≠ []) (h : extractStart e text = .ok (some (label, rest))) :
    ∀ j, j + e.right.length + rest.length < (text.drop e.left.length).length →
      hasPrefix ((text.drop e.left.length).drop j) e.right = false := by
  obtain ⟨s, i, hS, hH, hp⟩ := extractStart_inv hr h
  cases hp
  have hS := stripLeft_some hS
  subst hS
  intro j hj
  simp only [List.drop_left', List.length_drop] at hj ⊢
  exact (headSearch_some hH).2.2 j (by omega)

/-- **C15 (extractTail decomposes the text).** When tail extraction with a left boundary succeeds,
the text is `rest ++ left ++ tag ++ right`, the extracted label is the tag with surrounding blanks
and control characters trimmed, the boundary was found within the search range, and it is the last
occurrence of the boundary before the right end. -/
theorem C15_extract_tail_decompose (e : Extractor) (text label rest : Bytes)
    (hl : e.left ≠ []) (h : extractEnd e text = .ok (some (label, rest))) :
    ∃ tag, text = rest ++ e.left ++ tag ++ e.right ∧ label = trimCtl tag ∧
      e.left.length + tag.length ≤ e.maxRange ∧
      (∀ j, rest.length < j → j + e.right.length ≤ text.length →
        hasPrefix ((text.take (text.length - e.right.length)).drop j) e.left = false) := by
  obtain ⟨s, i, hS, hT, hp⟩ := extractEnd_inv hl h
  cases hp
  have hS := stripRight_some hS
  obtain ⟨hA, hB, hC, hD⟩ := tailSearch_some hT
  subst hS
  refine ⟨_, by rw [← hA], rfl, by simp only [List.length_drop]; omega, fun j hj1 hj2 => ?_⟩
  simp only [List.length_take, List.length_append, Nat.add_sub_cancel, List.take_left'] at hj1 hj2 ⊢
  exact hD j (by omega) (by omega)

/-- what `newStringExtractor` guarantees (repaired F-10): a bare `*` has the boundary on its far
side, a character class has a full 256-entry table -/
def _root_.Xform.Extractor.WF (e : Extractor) : Prop :=
  (e.valid = none → if e.fromEnd then e.left ≠ [] else e.right ≠ []) ∧
  (∀ t, e.valid = some t → t.length = 256)

variable {e : Extractor}

theorem WF_scan (hwf : e.WF) (h : (if e.fromEnd then e.left else e.right) = []) : e.valid.isSome = true := by
  refine Option.isSome_iff_ne_none.mpr fun hv => ?_
  have := hwf.1 hv
  split at this <;> simp_all

theorem tableAt_safe (t : List Bool) (ht : t.length = 256) (c : Nat) : (tableAt (some t) c).Safe :=
  ⟨_, by rw [tableAt, if_pos ht]⟩

open GoM in
theorem matchFromStart_safe (t : List Bool) (ht : t.length = 256) (s : Bytes) (i : Nat) :
    (matchFromStart (some t) s i).Safe := by
  induction s generalizing i with
  | nil => exact safe_ok i
  | cons c r ih =>
    rw [matchFromStart]
    exact safe_bind (tableAt_safe t ht c) fun b _ => safe_ite (fun _ => safe_ok _) fun _ => ih _

open GoM in
theorem matchFromEnd_safe (t : List Bool) (ht : t.length = 256) (s : Bytes) : (matchFromEnd (some t) s).Safe :=
  safe_bind (matchFromStart_safe t ht s.reverse 0) fun _ _ => safe_ok _

open GoM in
/-- **C15 / C07 (head extraction is total).** -/
theorem C15_extract_head_total (e : Extractor) (text : Bytes) (hwf : e.WF) (hf : e.fromEnd = false) :
    ∃ o, extractStart e text = .ok o := by
  -- without a right boundary to search for there is a table to scan with
  have star : e.right = [] → e.valid.isSome = true := fun hr => WF_scan hwf (by rw [hf]; exact hr)
  have scan : ∀ s, e.valid.isSome = true → (matchFromStart e.valid s 0).Safe := fun s h => by
    obtain ⟨t, ht⟩ := Option.isSome_iff_exists.mp h
    exact ht ▸ matchFromStart_safe t (hwf.2 t ht) s 0
  show (extractStart e text).Safe
  unfold extractStart
  split
  · exact safe_ok _
  next s _ =>
    extract_lets search
    have hsearch : (search ()).Safe := by
      refine safe_ite (fun _ => ?_) fun hr =>
        safe_bind (scan s (star (Decidable.not_not.mp hr))) fun n _ => safe_guard fun _ => safe_ok _
      cases headSearch e s with
      | none => exact safe_ok _
      | some i =>
        exact safe_ite (fun hv => safe_bind (scan _ hv) fun n _ => safe_guard fun _ => safe_ok _)
          fun _ => safe_ok _
    split
    · exact safe_bind (‹e.valid = some _› ▸ tableAt_safe _ (hwf.2 _ ‹e.valid = some _›) _) fun v _ => safe_guard fun _ => hsearch
    · exact hsearch

open GoM in
/-- **C15 / C07 (tail extraction is total).** -/
theorem C15_extract_tail_total (e : Extractor) (text : Bytes) (hwf : e.WF) (hf : e.fromEnd = true) :
    ∃ o, extractEnd e text = .ok o := by
  have star : e.left = [] → e.valid.isSome = true := fun hl => WF_scan hwf (by rw [hf]; exact hl)
  have scan : ∀ s, e.valid.isSome = true → (matchFromEnd e.valid s).Safe := fun s h => by
    obtain ⟨t, ht⟩ := Option.isSome_iff_exists.mp h
    exact ht ▸ matchFromEnd_safe t (hwf.2 t ht) s
  show (extractEnd e text).Safe
  unfold extractEnd
  split
  · exact safe_ok _
  next s _ =>
    extract_lets search
    have hsearch : (search ()).Safe := by
      refine safe_ite (fun _ => ?_) fun hl =>
        safe_bind (scan s (star (Decidable.not_not.mp hl))) fun n _ => safe_guard fun _ => safe_ok _
      cases tailSearch e s with
      | none => exact safe_ok _
      | some i =>
        exact safe_ite (fun hv => safe_bind (scan _ hv) fun n _ => safe_guard fun _ => safe_ok _)
          fun _ => safe_ok _
    split
    · exact safe_bind (‹e.valid = some _› ▸ tableAt_safe _ (hwf.2 _ ‹e.valid = some _›) _) fun v _ => safe_guard fun _ => hsearch
    · exact hsearch

/-! ### fact obligations (Tie B) -/

theorem C15_fact_sampler_rule : Facts.xform_drop_rule = ["tf.totalMatched > 0 && 100*tf.totalDropped/tf.totalMatched < tf.targetRate"] := rfl
/-- the counters are only ever incremented (no rescaling / windowing): `sampleDrop`'s state is the exact pair of counts -/
theorem C15_fact_sampler_counters : Facts.xform_drop_counter_writes =
    ["tf.totalMatched++", "tf.totalDropped++", "tf.totalMatched++"] := rfl
theorem C15_fact_truncate_copies : Facts.xform_truncate_builds_new_value = some true := rfl
theorem C15_fact_star_needs_boundary : Facts.xform_star_requires_far_boundary = some true := rfl
theorem C15_fact_slice_default_end : Facts.tmpl_slice_default_end = ["math.MaxInt32"] := rfl

theorem C15_fact_drop_rule_found : Facts.gen_drop_rule_found = true := rfl
/-- the sampled-drop decision translated from `tdrop.go` is the model's, for all counter values and rates -/
theorem C15_gen_drop_rule (m d r : Nat) : Facts.gen_drop_rule m d r = (Xform.sampleDrop r (m, d)).1 := by
  have h : ((100 : Int) * (d : Int)) = ((100 * d : Nat) : Int) := by simp
  unfold Facts.gen_drop_rule Xform.sampleDrop
  rw [h, ← Int.ofNat_tdiv]
  generalize 100 * d / m = q
  by_cases h1 : m > 0 ∧ q < r
  · simp only [h1, and_self, if_true]
    simp; omega
  · simp only [h1, if_false]
    simp; omega

/-! non-vacuity -/

example : (sampleRun 33 10) = (10, 3) := by rfl
example : ∃ e, newExtractor true (b!" \\[*\\]") 50 = some e ∧
    extractEnd e (b!"rest [x] [ tag ]") = .ok (some (b!"tag", b!"rest [x]")) := ⟨_, rfl, by rfl⟩
example : ∃ e, newExtractor false (b!"\\[*\\] ") 50 = some e ∧
    extractStart e (b!"[ tag ] rest") = .ok (some (b!"tag", b!"rest")) := ⟨_, rfl, by rfl⟩

end C15
