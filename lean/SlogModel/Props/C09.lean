import SlogModel.Model.Parse
import SlogModel.Lemmas.Utf8
import SlogModel.Lemmas.Bytes
import SlogModel.Gen.Facts

/-!
  C09 — Syslog header parsing is faithful and every message is accounted for.

  * `C09_total`          : `Parse` never panics, for every byte string and configuration with 8 levels and a
                           minimal length of at least 1
  * `C09_parse_render`   : for every well-formed line (PRI 0..191, six tokens without spaces, any
                           message bytes, at least the minimal length) the record carries exactly
                           facility `pri/8`, level `levels[pri%8]`, the six tokens and the message
                           (cut to the limit and cleaned), and is counted as passed
  * `C09_pri_out_of_range` : PRI ≥ 192 is rejected (dropped)
  * `C09_counted_once`   : every call counts exactly one record, with its length, as passed or dropped
  * `C09_cut_at_utf8_boundary`, `C09_uncut_unchanged` : a cut message is a valid UTF-8 prefix at most three bytes
                           short of the limit; a message within the limits is stored as it is
  * `C09_overflow_counted` : overflow is counted exactly for passed records whose message was cut
-/

namespace C09
open Parse

theorem nextField_tok (tok rest : Bytes) (h : 32 ∉ tok) :
    nextField (tok ++ 32 :: rest) = some (tok, rest) := by
  have hp : ∀ x ∈ tok, (x != 32) = true := fun x m => bne_iff_ne.mpr fun e => h (e ▸ m)
  have hs : ∀ x, (32 :: rest).head? = some x → (x != 32) = false := fun x hx => by cases hx; rfl
  rw [nextField, if_pos (by simp), List.takeWhile_append_stop _ hp hs, List.dropWhile_append_stop _ hp hs]
  rfl

theorem nextField_head {c : Nat} {rest v nx : Bytes} (hc : c ≠ 32) :
    nextField (c :: rest) = some (v, nx) → ∃ v', v = c :: v' := by
  fun_cases nextField (c :: rest) <;> intro h <;> cases h
  exact ⟨_, List.takeWhile_cons_of_pos (p := (· != 32)) (bne_iff_ne.mpr hc)⟩

theorem hasSuffix_iff {s p : Bytes} : hasSuffix s p = true ↔ p <:+ s := List.drop_beq_iff_suffix

theorem restFields_len {n : Nat} {s : Bytes} {acc fs : List Bytes} {r : Bytes} :
    restFields n s acc = some (fs, r) → fs.length = acc.length + n := by
  fun_induction restFields n s acc with
  | case1 => intro h; cases h; exact List.length_reverse
  | case2 => exact fun h => nomatch h
  | case3 n s acc v nx _ ih => intro h; rw [ih h, List.length_cons]; omega

/-- the PRI field `<…>1` of an input that starts with `<` has at least three bytes: the slice between `<` and `>1` exists -/
theorem pri_slice_ok {input v nx : Bytes} (h0 : idx input 0 = .ok 60)
    (hn : nextField input = some (v, nx)) (hs : hasSuffix v [62, 49] = true) :
    1 ≤ v.length - 2 ∧ v.length - 2 ≤ v.length := by
  obtain ⟨r, rfl⟩ : ∃ r, input = 60 :: r := by
    cases input with
    | nil => cases h0
    | cons x xs => cases h0; exact ⟨xs, rfl⟩
  obtain ⟨v', rfl⟩ := nextField_head (by decide) hn
  -- `60 :: v'` ends in `>1` and does not start with `>`: something precedes the suffix
  obtain ⟨_ | ⟨x, t⟩, ht⟩ := hasSuffix_iff.mp hs
  · cases ht
  · have := congrArg List.length ht
    simp only [List.length_cons, List.length_append, List.length_nil] at this ⊢
    omega

open GoM in
/-- **C09/C07 (totality).** `Parse` returns for every input: no index or slice expression can fail.  The proof walks
down the program: each early return is a value, each checked operation is in range by the guards passed so far. -/
theorem C09_total (cfg : Cfg) (input : Bytes) (h1 : 1 ≤ cfg.minLen) (h8 : 8 ≤ cfg.levels.length) :
    ∃ o, parseGo cfg input = .ok o := by
  show (parseGo cfg input).Safe
  unfold parseGo
  dsimp only          -- without this `split` passes over the `if` under `have raw := …` and takes an inner `match`
  refine safe_guard fun hlen => ?_
  refine safe_bind (safe_idx (by omega)) fun c hc => ?_
  refine safe_guard fun h60 => ?_
  split
  · exact safe_ok _
  rename_i val next hn
  refine safe_guard fun hsuf => ?_
  have hv := pri_slice_ok (Decidable.not_not.mp h60 ▸ hc) hn (by simpa using hsuf)
  refine safe_bind (safe_slice hv.1 hv.2) fun pri _ => ?_
  split
  · exact safe_ok _
  rename_i priVal _
  refine safe_guard fun hfac => ?_
  have hfac' : (priVal / 8).toNat < cfg.facilities.length := by simp at hfac; omega
  rw [List.getElem?_eq_getElem hfac', List.getElem?_eq_getElem (show (priVal % 8).toNat < cfg.levels.length by omega)]
  refine safe_bind (safe_ok _) fun _ _ => safe_bind (safe_ok _) fun _ _ => ?_
  split
  · exact safe_ok _
  rename_i fs remaining hr
  have hfs : fs.length = 6 := by simpa using restFields_len hr
  -- cut or not, the six header fields are read back from a list that holds six
  rw [List.getElem?_eq_getElem (by omega : 0 < fs.length), List.getElem?_eq_getElem (by omega : 1 < fs.length),
    List.getElem?_eq_getElem (by omega : 2 < fs.length), List.getElem?_eq_getElem (by omega : 3 < fs.length),
    List.getElem?_eq_getElem (by omega : 4 < fs.length), List.getElem?_eq_getElem (by omega : 5 < fs.length)]
  exact safe_ite (fun htr => safe_bind (safe_slice (Nat.zero_le _) (by simp at htr; omega)) fun _ _ => ⟨_, rfl⟩)
    (fun _ => safe_bind (safe_ok _) fun _ _ => ⟨_, rfl⟩)

structure Hdr where
  pri : Nat
  time : Bytes
  host : Bytes
  app : Bytes
  pid : Bytes
  source : Bytes
  sd : Bytes

def dec (n : Nat) : Bytes :=
  if n < 10 then [48 + n] else if n < 100 then [48 + n / 10, 48 + n % 10]
  else [48 + n / 100, 48 + n / 10 % 10, 48 + n % 10]

def render (h : Hdr) (msg : Bytes) : Bytes :=
  (60 :: dec h.pri ++ [62, 49]) ++ 32 :: (h.time ++ 32 :: (h.host ++ 32 :: (h.app ++ 32 :: (h.pid ++ 32 ::
    (h.source ++ 32 :: (h.sd ++ 32 :: msg))))))

def Hdr.NoSpaces (h : Hdr) : Prop :=
  32 ∉ h.time ∧ 32 ∉ h.host ∧ 32 ∉ h.app ∧ 32 ∉ h.pid ∧ 32 ∉ h.source ∧ 32 ∉ h.sd

/-- the message as stored: cut to the limit, cleaned when cut (or when the record hit the record limit) -/
def cutMsg (cfg : Cfg) (raw : Nat) (msg : Bytes) : Bytes :=
  let m := if msg.length > cfg.maxMsg then msg.take cfg.maxMsg else msg
  if msg.length > cfg.maxMsg || raw ≥ cfg.maxRec then Utf8.clean m else m

theorem digitsVal_digit (k : Nat) (hk : k ≤ 9) (ds : Bytes) (acc : Nat) :
    digitsVal ((48 + k) :: ds) acc = digitsVal ds (acc * 10 + k) := by
  rw [digitsVal, if_pos (isDigit_digit k hk), Nat.add_sub_cancel_left]

theorem atoi_digits (k : Nat) (hk : k ≤ 9) (r : Bytes) (v : Nat) (hv : v ≤ 9223372036854775807)
    (h : digitsVal ((48 + k) :: r) 0 = some v) : atoi ((48 + k) :: r) = some (v : Int) := by
  rw [atoi, if_neg (by omega), if_neg (by omega), atoiU, if_neg (List.cons_ne_nil _ _), h]
  exact if_pos hv

theorem dec_spec (n : Nat) (hn : n ≤ 999) : 32 ∉ dec n ∧ atoi (dec n) = some (n : Int) := by
  have ne (k : Nat) : ¬ 32 = 48 + k := by omega
  have h10 : n / 10 / 10 ≤ 9 := by omega
  have hm (k : Nat) : k % 10 ≤ 9 := by omega
  fun_cases dec n
  · refine ⟨by simp [ne], atoi_digits n (by omega) [] n (by omega) ?_⟩
    rw [digitsVal_digit _ (by omega), digitsVal, Nat.zero_mul, Nat.zero_add]
  · have h1 : n / 10 ≤ 9 := by omega
    refine ⟨by simp [ne], atoi_digits _ h1 _ n (by omega) ?_⟩
    rw [digitsVal_digit _ h1, digitsVal_digit _ (hm n), digitsVal,
      Nat.zero_mul, Nat.zero_add, Nat.div_add_mod']
  · rw [show n / 100 = n / 10 / 10 from (Nat.div_div_eq_div_mul n 10 10).symm]
    refine ⟨by simp [ne], atoi_digits _ h10 _ n (by omega) ?_⟩
    rw [digitsVal_digit _ h10, digitsVal_digit _ (hm _), digitsVal_digit _ (hm n), digitsVal,
      Nat.zero_mul, Nat.zero_add, Nat.div_add_mod', Nat.div_add_mod']

theorem render_pri (h : Hdr) (msg : Bytes) (hp : h.pri ≤ 999) :
    idx (render h msg) 0 = .ok 60 ∧
    nextField (render h msg) = some (60 :: dec h.pri ++ [62, 49],
      h.time ++ 32 :: (h.host ++ 32 :: (h.app ++ 32 :: (h.pid ++ 32 :: (h.source ++ 32 :: (h.sd ++ 32 :: msg)))))) ∧
    hasSuffix (60 :: dec h.pri ++ [62, 49]) [62, 49] = true ∧
    slice (60 :: dec h.pri ++ [62, 49]) 1 ((60 :: dec h.pri ++ [62, 49]).length - 2) = .ok (dec h.pri) ∧
    atoi (dec h.pri) = some (h.pri : Int) :=
  have ⟨hsp, hat⟩ := dec_spec h.pri hp
  ⟨rfl, nextField_tok _ _ (by simp [hsp]), hasSuffix_iff.mpr (List.suffix_append (60 :: dec h.pri) _),
    slice_of_append (a := [60]) (c := [62, 49]) (by simp) rfl (by simp; omega), hat⟩

theorem restFields_render (t0 t1 t2 t3 t4 t5 msg : Bytes)
    (h0 : 32 ∉ t0) (h1 : 32 ∉ t1) (h2 : 32 ∉ t2) (h3 : 32 ∉ t3) (h4 : 32 ∉ t4) (h5 : 32 ∉ t5) :
    restFields 6 (t0 ++ 32 :: (t1 ++ 32 :: (t2 ++ 32 :: (t3 ++ 32 :: (t4 ++ 32 :: (t5 ++ 32 :: msg)))))) [] =
      some ([t0, t1, t2, t3, t4, t5], msg) := by
  simp [restFields, nextField_tok, h0, h1, h2, h3, h4, h5]

theorem render_length (h : Hdr) (msg : Bytes) : 1 ≤ (render h msg).length := by
  simp [render]

/-- **C09 (faithful parsing).** For every well-formed RFC 5424 line of at least the minimal length
the record carries exactly the facility and mapped level of its PRI and the six header tokens and
the message of the line; it is counted as passed, and as overflow exactly when the message exceeds
the limit. -/
theorem C09_parse_render (cfg : Cfg) (h : Hdr) (msg : Bytes)
    (hp : h.pri ≤ 191) (hf : cfg.facilities.length = 24) (hl : cfg.levels.length = 8)
    (hs : h.NoSpaces) (hlen : cfg.minLen ≤ (render h msg).length) :
    ∃ fac lvl, cfg.facilities[h.pri / 8]? = some fac ∧ cfg.levels[h.pri % 8]? = some lvl ∧
      parseGo cfg (render h msg) = .ok (.pass
        { facility := fac, level := lvl, time := h.time, host := h.host, app := h.app, pid := h.pid,
          source := h.source, extradata := h.sd,
          log := cutMsg cfg (render h msg).length msg,
          unescaped := (cutMsg cfg (render h msg).length msg).contains 10,
          rawLength := (render h msg).length } (msg.length > cfg.maxMsg)) := by
  obtain ⟨s0, s1, s2, s3, s4, s5⟩ := hs
  obtain ⟨hidx, hnf, p2, p3, p4⟩ := render_pri h msg (by omega)
  have hfac : h.pri / 8 < cfg.facilities.length := by rw [hf]; exact Nat.div_lt_of_lt_mul (by omega)
  have hlvl : h.pri % 8 < cfg.levels.length := by rw [hl]; exact Nat.mod_lt _ (by decide)
  refine ⟨cfg.facilities[h.pri / 8], cfg.levels[h.pri % 8], by simp, by simp, ?_⟩
  have e1 : ((h.pri : Int) / 8) = ((h.pri / 8 : Nat) : Int) := (Int.natCast_ediv _ _).symm
  have e2 : ((h.pri : Int) % 8) = ((h.pri % 8 : Nat) : Int) := (Int.natCast_emod _ _).symm
  have hb : (decide (((h.pri / 8 : Nat) : Int) < 0) || decide (((h.pri / 8 : Nat) : Int) ≥ (cfg.facilities.length : Int))) = false := by
    simp; omega
  unfold parseGo
  simp only [GoM.ok_bind, GoM.pure_eq, if_neg (Nat.not_lt.mpr hlen), hidx, hnf, p2, p3, p4,
    restFields_render _ _ _ _ _ _ _ s0 s1 s2 s3 s4 s5, e1, e2, hb, Int.toNat_natCast,
    List.getElem?_eq_getElem hfac, List.getElem?_eq_getElem hlvl]
  by_cases hm : msg.length > cfg.maxMsg
  · simp only [hm, slice_of_le (Nat.zero_le _) (Nat.le_of_lt hm), cutMsg, GoM.ok_bind, if_true, decide_true, Bool.true_or]
    rfl
  · simp only [hm, cutMsg, if_false, decide_false, Bool.false_or]
    rfl

theorem cutMsg_eq (cfg : Cfg) (raw : Nat) (msg : Bytes) :
    cutMsg cfg raw msg =
      if msg.length > cfg.maxMsg ∨ raw ≥ cfg.maxRec then Utf8.clean (msg.take cfg.maxMsg) else msg := by
  unfold cutMsg
  by_cases h : msg.length > cfg.maxMsg
  · simp only [h, if_true, decide_true, Bool.true_or, true_or]
  · simp only [h, if_false, decide_false, Bool.false_or, false_or, decide_eq_true_eq,
      List.take_of_length_le (Nat.le_of_not_lt h)]

/-- **C09 (cut at a valid UTF-8 boundary).** Let `orig` be the valid UTF-8 message a client sent and
`orig.take n` what reached the parser (`n < orig.length` only when the framer cut the record at the
record limit, which the parser sees as `raw ≥ maxRec`).  The stored message is a prefix of `orig`,
is valid UTF-8, and is shorter than the applicable limit by at most the three bytes of a cut rune. -/
theorem C09_cut_at_utf8_boundary (cfg : Cfg) (raw : Nat) (orig : Bytes) (n : Nat)
    (hv : Utf8.valid orig = true) (hcut : n < orig.length → raw ≥ cfg.maxRec) :
    ∃ k, cutMsg cfg raw (orig.take n) = orig.take k ∧ Utf8.valid (orig.take k) = true ∧
      k ≤ min (min n cfg.maxMsg) orig.length ∧ min (min n cfg.maxMsg) orig.length ≤ k + 3 := by
  rw [cutMsg_eq, List.length_take, List.take_take, Nat.min_comm cfg.maxMsg]
  split
  · obtain ⟨k, a, b, c, d⟩ := Utf8.clean_take_valid orig hv (min (min n cfg.maxMsg) orig.length)
    exact ⟨k, by rw [← a, ← List.take_eq_take_min], b, c, d (Nat.min_le_right _ _)⟩
  · next h =>
    -- neither cut by the framer nor by the parser: the whole of `orig`
    have hn : orig.length ≤ n := Nat.le_of_not_lt fun hlt => h (.inr (hcut hlt))
    rw [Nat.min_eq_right hn] at h
    rw [Nat.min_eq_right (Nat.le_min.mpr ⟨hn, Nat.le_of_not_lt fun hlt => h (.inl hlt)⟩)]
    exact ⟨orig.length, by rw [List.take_of_length_le hn, List.take_length], by rwa [List.take_length],
      Nat.le_refl _, Nat.le_add_right _ _⟩

/-- a message within the limits that was not cut is stored as it is, valid or not -/
theorem C09_uncut_unchanged (cfg : Cfg) (raw : Nat) (msg : Bytes)
    (h1 : msg.length ≤ cfg.maxMsg) (h2 : raw < cfg.maxRec) : cutMsg cfg raw msg = msg := by
  rw [cutMsg_eq, if_neg (by omega)]

/-- **C09 (out-of-range PRI rejected).** A numeric PRI of 192 or more is dropped (and counted as such). -/
theorem C09_pri_out_of_range (cfg : Cfg) (h : Hdr) (msg : Bytes)
    (hp : 192 ≤ h.pri ∧ h.pri ≤ 999) (hf : cfg.facilities.length = 24)
    (hlen : cfg.minLen ≤ (render h msg).length) :
    parseGo cfg (render h msg) = .ok (.drop 4) := by
  obtain ⟨hidx, hnf, p2, p3, p4⟩ := render_pri h msg hp.2
  have hb : (decide ((h.pri : Int) / 8 < 0) || decide ((h.pri : Int) / 8 ≥ (cfg.facilities.length : Int))) = true := by
    simp; omega
  unfold parseGo
  simp only [GoM.ok_bind, GoM.pure_eq, if_neg (Nat.not_lt.mpr hlen), hidx, hnf, p2, p3, p4, hb, ne_eq, not_true_eq_false,
    Bool.not_true, Bool.false_eq_true, if_false, if_true]

/-- **C09 (counted exactly once).** Whatever the outcome, exactly one record is counted, with the
raw length, as passed or as dropped. -/
theorem C09_counted_once (raw : Nat) (o : Outcome) :
    (counts raw o).passed + (counts raw o).dropped = 1 ∧
    (counts raw o).passedBytes + (counts raw o).droppedBytes = raw := by
  cases o <;> simp [counts]

/-- overflow is counted exactly for passed records whose message was cut -/
theorem C09_overflow_counted (raw : Nat) (r : Rec) (ov : Bool) :
    (counts raw (.pass r ov)).overflow = (if ov then 1 else 0) := by
  simp [counts]

/-! ### fact obligations (Tie B) -/

theorem C09_fact_min_len : Facts.parse_min_len = some 32 := rfl
theorem C09_fact_facilities : Facts.facility_names.length = 24 := rfl
theorem C09_fact_severities : Facts.severity_names.length = 8 := rfl
theorem C09_fact_pri_suffix_safe : Facts.parse_pri_suffix_safe = some true := rfl
theorem C09_fact_clean_when_truncated : Facts.parse_clean_when_truncated = some true := rfl
theorem C09_fact_limits : Facts.defs_InputLogMaxMessageBytes = some 1048576 ∧
    Facts.defs_InputLogMaxRecordBytes = some 1048832 := ⟨rfl, rfl⟩

/-! ### translated arithmetic (Tie B, semantic form) -/

theorem C09_fact_pri_found : Facts.gen_pri_facility_found = true ∧ Facts.gen_pri_severity_found = true ∧
    Facts.gen_facility_rejected_found = true := ⟨rfl, rfl, rfl⟩
/-- facility and severity as the code computes them (`>> 3`, `& 0b111`, translated from the source) are the model's `/ 8` and
`% 8`, for every integer `strconv.Atoi` can return -/
theorem C09_gen_pri_arith (p : Int) : Facts.gen_pri_facility p = p / 8 ∧ Facts.gen_pri_severity p = p % 8 := ⟨rfl, rfl⟩
/-- the facility range check of the code is the model's -/
theorem C09_gen_facility_rejected (f : Int) (n : Nat) :
    Facts.gen_facility_rejected f n = (decide (f < 0) || decide (f ≥ (n : Int))) := rfl

/-! ### non-vacuity -/

def sampleCfg : Cfg :=
  { facilities := List.replicate 24 [102], levels := List.replicate 8 [108], maxMsg := 10, maxRec := 266 }
def sampleHdr : Hdr :=
  { pri := 163, time := b!"2019-08-15T15:50:46Z", host := b!"h", app := b!"a", pid := b!"1", source := b!"s", sd := b!"-" }

example : sampleHdr.NoSpaces ∧ sampleCfg.minLen ≤ (render sampleHdr (b!"hello world!")).length := by
  simp [Hdr.NoSpaces, sampleHdr, sampleCfg, render, dec]

/-- "héllo wörld€" cut at 10 bytes falls inside `ö`: the stored message ends before it -/
example : Utf8.valid [104, 195, 169, 108, 108, 111, 32, 119, 195, 182, 114, 108, 100, 226, 130, 172] = true ∧
    cutMsg sampleCfg 60 [104, 195, 169, 108, 108, 111, 32, 119, 195, 182, 114, 108, 100, 226, 130, 172]
      = [104, 195, 169, 108, 108, 111, 32, 119, 195, 182] ∧
    cutMsg { sampleCfg with maxMsg := 9 } 60 [104, 195, 169, 108, 108, 111, 32, 119, 195, 182, 114, 108, 100, 226, 130, 172]
      = [104, 195, 169, 108, 108, 111, 32, 119] := ⟨rfl, rfl, rfl⟩

end C09
