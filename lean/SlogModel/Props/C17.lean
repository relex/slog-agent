import SlogModel.Lemmas.Reload
import SlogModel.Gen.Facts

/-!
  C17 — Configuration reload is safe at any moment.

  The theorems quantify over every finite sequence of actions of `Reload.step` from the initial state:
  any number of connections (client number = socket descriptor, handed out by the OS only while no open
  socket has it), registration of their sinks, records and ticks, closes (sink first, then socket),
  successful and failed reloads, in every interleaving at the granularity of the lock-protected
  sections of `reloadable.go`.

  * `C17_no_dead_delivery` : no downstream call (Accept / Tick / Close) ever reaches a sink of a
      downstream that has been shut down, and a new sink never replaces one still in place.
  * `C17_registered_never_crashes` : `Accept`, `Tick` and `Close` of a registered connection are always
      enabled (no nil dereference), whatever reloads happened in between.
  * `C17_slots_current` : at every moment every stored sink belongs to the current downstream, the slot
      of a client number is occupied exactly while its connection is registered, and shut-down
      generations are all older than the current one.
  * `C17_failed_reload_no_effect` : a failed reload changes nothing but the log.
  * `C17_reload_takes_over` : a successful reload shuts the old downstream down and leaves a sink of the
      new downstream in exactly the occupied slots; connections and sockets are untouched.
  * `legacy_F15_*`, `legacy_F16_*` : the interleavings of the code before the repairs reach a
      violation (concrete runs).
  Not modelled here: what a downstream does with the records (C01 / C03: the queued chunks of the old
  pipelines are saved at Shutdown and recovered by the new ones), the content of configuration
  compatibility (facts below + the harness's real `Reloader` runs).
-/

open Reload

namespace C17

/-- **C17 (nothing is handed to a pipeline set that was shut down).** -/
theorem C17_no_dead_delivery (acts : List Act) (s : St) (h : run {} acts = some s) : s.bad = [] :=
  (reach h).ok

/-- **C17 (slots are always current).** -/
theorem C17_slots_current (acts : List Act) (s : St) (h : run {} acts = some s) :
    (∀ p ∈ s.slots, p.2.gen = s.gen) ∧ (∀ g ∈ s.shut, g < s.gen) ∧
    (∀ n, aget s.phases n = some .registered ↔ (aget s.slots n).isSome) :=
  ⟨(reach h).gens, (reach h).cur, (reach h).reg⟩

/-- **C17 (a registered connection never crashes).** -/
theorem C17_registered_never_crashes (acts : List Act) (s : St) (h : run {} acts = some s) (n r : Nat)
    (hreg : aget s.phases n = some .registered) :
    (step s (.accept n r)).isSome ∧ (step s (.tick n)).isSome ∧ (step s (.closeSink n)).isSome := by
  have hs := ((reach h).reg n).mp hreg
  cases hk : aget s.slots n with
  | none => simp [hk] at hs
  | some k => simp [step, hreg, callVia, closeVia, hk]

/-- **C17 (a failed reload has no effect).** -/
theorem C17_failed_reload_no_effect (s : St) :
    step s .reloadFail = some { s with hist := s.hist ++ [.reloadFailed] } := rfl

/-- **C17 (a successful reload takes every connection over).** -/
theorem C17_reload_takes_over (s s' : St) (h : step s .reload = some s') :
    s'.gen = s.gen + 1 ∧ s'.shut = s.shut ++ [s.gen] ∧ s'.phases = s.phases ∧ s'.fds = s.fds ∧
    (∀ n, (aget s'.slots n).isSome = (aget s.slots n).isSome) ∧ (∀ p ∈ s'.slots, p.2.gen = s.gen + 1) := by
  cases h
  exact ⟨rfl, rfl, rfl, rfl, reloadStep_occupied s, fun p hp => mem_renew _ _ _ p hp⟩

/-! ### the code before the repairs: concrete bad runs -/

/-- F-15: the downstream sink is created before the lock, a reload slips in, the connection ends up
bound to a sink of the downstream that was just shut down -/
theorem legacy_F15_stale_sink :
    (runLegacy {} [.connect 5, .createSink 5, .reload, .storeSink 5, .accept 5 1]).map (·.bad) =
      some ["Accept on a sink of a downstream that was shut down"] := rfl

/-- F-16: the socket is closed before the sink; a new connection gets the same number, the old one
closes the new connection's sink, and the new connection's next record dereferences nil -/
theorem legacy_F16_slot_reuse :
    (runLegacy {} [.connect 7, .register 7, .closeSocketFirst 7, .connect 7, .register 7]).map (·.bad) =
      some ["created new sink while old sink is still in place"] ∧
    runLegacy {} [.connect 7, .register 7, .closeSocketFirst 7, .connect 7, .register 7, .closeSinkLate 7, .accept 7 1] = none :=
  ⟨rfl, rfl⟩

example : (run {} [.connect 3, .register 3, .accept 3 1, .reload, .accept 3 2, .connect 4, .register 4, .reloadFail,
    .closeSink 3, .closeSocket 3, .connect 3, .register 3, .reload, .tick 4]).map (fun s => (s.gen, s.slots.map (·.1), s.bad)) =
    some (2, [3, 4], []) := rfl

/-! ### fact obligations (Tie B) -/

/-- `NewSink`: read lock first, then the downstream sink, then the store -/
theorem C17_fact_newsink_order : Facts.reload_newsink_order =
    ["RLock", "orc.downstream.NewSink", "store downstreamSinks[clientNumber]"] := rfl
/-- every method of `ReloadableSink` takes the read lock before it touches the downstream pointer -/
theorem C17_fact_sink_methods_locked : Facts.reload_sink_methods = [("Accept", 1), ("Tick", 1), ("Close", 1)] := rfl
/-- `reload`: initiate before the lock; under the write lock: close sinks, shut down, complete, re-create -/
theorem C17_fact_reload_order : Facts.reload_reload_order =
    ["initiateReload", "return on error + reloadFailureCounter.Inc", "Lock", "sink.Close", "orc.downstream.Shutdown",
     "completeRenewal", "orc.downstream.NewSink", "reloadSuccessCounter.Inc"] := rfl
/-- the listener closes a connection's sink before it lets the socket be closed -/
theorem C17_fact_close_order : Facts.reload_conn_close_order = ["recvChan.Flush", "recvChan.Close", "connAborter.Signal"] := rfl
/-- what the compatibility check compares -/
theorem C17_fact_compat_checks : Facts.reload_compat_checks =
    ["schema/maxFields", "inputs", "orchestration/type", "orchestration/keys", "outputBufferPairs", "schema/fields"] := rfl
/-- the new configuration is loaded and checked before anything is torn down -/
theorem C17_fact_initiate_order : Facts.reload_initiate_order =
    ["NewLoaderFromConfigFile", "checkConfigCompatibility", "return closure"] := rfl

end C17
