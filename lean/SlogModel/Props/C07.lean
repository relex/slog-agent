import SlogModel.Model.Pipe
import SlogModel.Props.C09
import SlogModel.Lemmas.XformTotal
import SlogModel.Gen.Facts

/-!
  C07 — No input can crash or wedge the agent.

  `Pipe.process` is the record path parse -> transforms -> serialize as the composition of the stage
  models, with every index / slice operation of the Go code a checked operation.

  * `C07_pipeline_total` : for every byte string, receive time and sampler state the path returns —
      rejected (counted by the input), filtered, or serialized — never a panic.  Built from C09_total
      (parser), XT.runSteps_total (every transform program accepted by the configuration check; C16) and
      the totality of the serializer model.
  * `C07_stream_total` : every sequence of lines is processed to its end, one outcome per line: bad
      records never stop the records behind them.
  * `C07_listener_keeps_accepting` : the accept loop (`acceptStep`, from `tcplinelistener.go` `run`) is still accepting
      after any sequence of connections and temporary accept failures; `legacy_F30` : before the repair one such
      failure ended it.
  * framing (C08_fragmentation / C08_no_overflow_of_prefixes) and the timestamp parser (C13_total) are the
      remaining stages of the byte path.
  Tie: the pipe harness runs the real parser, transforms, serializer and chunk maker on generated
  programs and on hostile lines and compares each outcome with `Pipe.process`; the end-to-end harness
  feeds hostile byte streams over TCP (malformed headers, NIL / short timestamps, oversized fields,
  invalid UTF-8, binary garbage, abrupt disconnects) and requires that the listener stays alive and
  every well-formed record around them is delivered.
-/

open Pipe

namespace C07

theorem toX_len (n off : Nat) (r : Parse.Rec) (sec : Int) (nsec : Nat) (h : off + 9 ≤ n) : (toX n off r sec nsec).fields.length = n := by
  simp [toX]; omega

/-- **C07 (no input can panic the record path).** For every byte string presented as a record,
every receive time and every sampler state, the parse → transform → serialize path returns: the
record is rejected (counted), filtered or serialized — never a panic. -/
theorem C07_pipeline_total (c : Cfg) (st : Xform.XState) (line : Bytes) (sec : Int) (nsec : Nat)
    (h1 : 1 ≤ c.parse.minLen) (h8 : 8 ≤ c.parse.levels.length) (hn : c.off + 9 ≤ c.nFields) (hwf : XT.stepsWF c.nFields c.steps) :
    ∃ o, process c st line sec nsec = .ok o := by
  show (process c st line sec nsec).Safe
  unfold process
  refine GoM.safe_bind (C09.C09_total c.parse line h1 h8) fun o _ => ?_
  cases o with
  | drop reason => exact GoM.safe_ok _
  | pass r ov =>
    obtain ⟨res, r', st', hr, _⟩ :=
      XT.runSteps_total c.nFields st (toX c.nFields c.off r sec nsec) (toX_len _ _ _ _ _ hn) c.steps hwf
    simp only [hr, GoM.ok_bind]
    cases res <;> exact GoM.safe_ok _

/-- every sequence of lines is processed to the end: a bad record never stops the records behind it -/
theorem C07_stream_total (c : Cfg) (h1 : 1 ≤ c.parse.minLen) (h8 : 8 ≤ c.parse.levels.length) (hn : c.off + 9 ≤ c.nFields)
    (hwf : XT.stepsWF c.nFields c.steps) : ∀ (lines : List Bytes) (st : Xform.XState),
    ∃ outs, processAll c st lines = .ok outs ∧ outs.length = lines.length
  | [], _ => ⟨[], rfl, rfl⟩
  | l :: ls, st => by
    obtain ⟨⟨o, st'⟩, ho⟩ := C07_pipeline_total c st l 0 0 h1 h8 hn hwf
    obtain ⟨outs, h2, h3⟩ := C07_stream_total c h1 h8 hn hwf ls st'
    exact ⟨o :: outs, by rw [processAll, ho, GoM.ok_bind]; simp only [h2, GoM.ok_bind]; rfl, by simp [h3]⟩

/-! ### fact obligations (Tie B): the listener's error paths -/

/-- a connection that ends for any reason other than the stop request has its sink closed and then its socket
closed (`connAborter.Signal`): no descriptor leaks, the accept loop keeps running -/
theorem C07_fact_conn_error_path : Facts.reload_conn_close_order = ["recvChan.Flush", "recvChan.Close", "connAborter.Signal"] ∧
    Facts.c07_error_condition = ["util.IsNetworkClosed(readErr) && listener.stopRequest.Peek()"] := ⟨rfl, rfl⟩

/-! ### the accept loop (`tcplinelistener.go` `run`): what can end it

The outcomes of `AcceptTCP` are the environment's: a connection, a temporary failure (no free file descriptor, no buffer
space, a connection aborted before it was accepted), or any other error; the stop request closes the socket.  After the
repair of F-30 a temporary failure is retried. -/

inductive AcceptEv where
  | conn            -- a connection is accepted
  | temporary       -- EMFILE / ENFILE / ENOBUFS / ENOMEM / ECONNABORTED
  | fatal           -- any other error
  | stop            -- stop request: the socket is closed, AcceptTCP returns "use of closed network connection"
  deriving DecidableEq, Repr

structure AcceptSt where
  accepting : Bool := true
  stopRequested : Bool := false
  accepted : Nat := 0
  deriving DecidableEq, Repr

def acceptStep (s : AcceptSt) : AcceptEv → AcceptSt
  | .conn => if s.accepting then { s with accepted := s.accepted + 1 } else s
  | .temporary => if s.accepting ∧ s.stopRequested then { s with accepting := false } else s      -- retried unless stopping
  | .fatal => { s with accepting := false }
  | .stop => { s with accepting := false, stopRequested := true }

/-- the loop before the repair: every error ends it -/
def legacyAcceptStep (s : AcceptSt) : AcceptEv → AcceptSt
  | .temporary => { s with accepting := false }
  | e => acceptStep s e

/-- **C07 (keeps accepting connections).** Whatever sequence of connections and temporary accept failures the clients and the
system produce, the listener is still accepting afterwards and has accepted every connection that arrived. -/
theorem C07_listener_keeps_accepting (evs : List AcceptEv) (h : ∀ e ∈ evs, e = .conn ∨ e = .temporary) :
    (evs.foldl acceptStep {}).accepting = true ∧ (evs.foldl acceptStep {}).accepted = evs.count .conn := by
  suffices ∀ s : AcceptSt, s.accepting = true → s.stopRequested = false →
      (evs.foldl acceptStep s).accepting = true ∧ (evs.foldl acceptStep s).accepted = s.accepted + evs.count .conn by
    simpa using this {} rfl rfl
  induction evs with
  | nil => intro s h1 _; exact ⟨h1, by simp⟩
  | cons e es ih =>
    intro s h1 h2
    obtain ⟨he, ht⟩ := List.forall_mem_cons.mp h
    have ih' := ih ht
    rcases he with rfl | rfl
    · have := ih' (acceptStep s .conn) (by simp [acceptStep, h1]) (by simp [acceptStep, h1, h2])
      simp only [List.foldl_cons]
      refine ⟨this.1, ?_⟩
      rw [this.2]; simp [acceptStep, h1]; omega
    · have hs : acceptStep s .temporary = s := by simp [acceptStep, h2]
      simp only [List.foldl_cons, hs]
      have := ih' s h1 h2
      refine ⟨this.1, ?_⟩
      rw [this.2]; simp

/-- before the repair one temporary failure was enough (F-30) -/
theorem legacy_F30 : ([AcceptEv.conn, .temporary, .conn].foldl legacyAcceptStep {}).accepted = 1 ∧
    ([AcceptEv.conn, .temporary, .conn].foldl acceptStep {}).accepted = 2 := ⟨rfl, rfl⟩

/-- the error handling of the accept loop, in order, and the errors that count as temporary -/
theorem C07_fact_accept_errors : Facts.c07_accept_error_branches =
    ["util.IsTemporaryAcceptError(acceptErr) && !listener.stopRequest.Peek()",
     "!(listener.stopRequest.Peek() && util.IsNetworkClosed(acceptErr))",
     "syscall.EMFILE", "syscall.ENFILE", "syscall.ENOBUFS", "syscall.ENOMEM", "syscall.ECONNABORTED"] := rfl

end C07
